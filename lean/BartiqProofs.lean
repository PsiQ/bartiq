import BartiqProofs.ExceptLemmas
import BartiqProofs.DictLemmas
import BartiqProofs.ExprLemmas
import BartiqProofs.EvaluateLemmas
import BartiqProofs.FunctionLemmas
import BartiqProofs.QrefLemmas
import BartiqProofs.ResourceLemmas
import BartiqProofs.NoInternal
import BartiqProofs.ParamTree
import BartiqProofs.CompileCongr
import BartiqProofs.ChildOrder
import BartiqProofs.ChildOrderDeep
import BartiqProofs.CompileSpec
import BartiqProofs.Refinement
import BartiqProofs.SortLemmas
import BartiqProofs.GraphLemmas
import BartiqProofs.SortTreeLemmas
import BartiqProofs.AggLemmas
import BartiqProofs.Scoping
import BartiqProofs.ParserComplete
import BartiqProofs.PrinterRoundTrip
