/-
  BartiqModel.Basic — dictionaries with Python `dict` semantics and the expression language.
  Core Lean only (no Mathlib): everything here is executable and is what the driver runs.
-/
namespace Bartiq

/-- A Python `dict[str, α]`: association list in insertion order, keys unique by construction
    when built through `set`/`merge`. -/
abbrev Dict (α : Type) := List (String × α)

namespace Dict
variable {α β : Type}

def get? : Dict α → String → Option α
  | [], _ => none
  | (k', v) :: t, k => if k' = k then some v else get? t k

def contains (d : Dict α) (k : String) : Bool := (d.get? k).isSome

/-- `d[k] = v`: update in place if present, else append. -/
def set : Dict α → String → α → Dict α
  | [], k, v => [(k, v)]
  | (k', v') :: t, k, v => if k' = k then (k', v) :: t else (k', v') :: set t k v

/-- `{**a, **b}` -/
def merge (a b : Dict α) : Dict α := b.foldl (fun acc kv => acc.set kv.1 kv.2) a

def erase (d : Dict α) (k : String) : Dict α := d.filter (fun kv => kv.1 ≠ k)

def keys (d : Dict α) : List String := d.map (·.1)
def values (d : Dict α) : List α := d.map (·.2)

def mapVal (f : α → β) (d : Dict α) : Dict β := d.map (fun kv => (kv.1, f kv.2))

/-- build from a list of pairs, later entries overwrite earlier ones (dict comprehension) -/
def ofList (l : List (String × α)) : Dict α := merge [] l

end Dict

inductive BinOp | add | sub | mul | div | pow | fdiv | mod
deriving DecidableEq, Repr, Inhabited

inductive BigKind | sum | prod
deriving DecidableEq, Repr, Inhabited

/-- Expressions.  `sym` covers plain (`N`), namespaced (`a.b.N`), port (`#in_0`, `a.#out_0`) and
    reserved-word (`lambda`, `in`) identifiers: each is one symbol.  `app` is any function call,
    built-in (lower-cased name) or uninterpreted.  `big` is `sum_over` / `prod_over`. -/
inductive Expr where
  | num (q : Rat)
  | sym (s : String)
  | neg (a : Expr)
  | bin (op : BinOp) (a b : Expr)
  | app (f : String) (args : List Expr)
  | big (k : BigKind) (body : Expr) (i : String) (lo hi : Expr)
deriving Repr, Inhabited

namespace Expr

/-- induction principle with the hypothesis on argument lists stated by membership (the recursor's second motive) -/
theorem ind {P : Expr → Prop}
    (hnum : ∀ q, P (num q)) (hsym : ∀ s, P (sym s)) (hneg : ∀ a, P a → P (neg a))
    (hbin : ∀ op a b, P a → P b → P (bin op a b))
    (happ : ∀ f args, (∀ a ∈ args, P a) → P (app f args))
    (hbig : ∀ k body i lo hi, P body → P lo → P hi → P (big k body i lo hi)) : ∀ e, P e :=
  Expr.rec (motive_1 := P) (motive_2 := fun l => ∀ a ∈ l, P a) hnum hsym hneg hbin happ hbig (fun _ h => nomatch h)
    fun _ _ hh ht _ h => (List.mem_cons.mp h).elim (fun e => e ▸ hh) (ht _)

mutual
def beq : Expr → Expr → Bool
  | num a, num b => a == b
  | sym a, sym b => a == b
  | neg a, neg b => beq a b
  | bin o a b, bin o' a' b' => o == o' && beq a a' && beq b b'
  | app f as, app g bs => f == g && beqList as bs
  | big k b i l h, big k' b' i' l' h' => k == k' && i == i' && beq b b' && beq l l' && beq h h'
  | _, _ => false
def beqList : List Expr → List Expr → Bool
  | [], [] => true
  | a :: as, b :: bs => beq a b && beqList as bs
  | _, _ => false
end
instance : BEq Expr := ⟨beq⟩

/-- A substitution is a partial map from names to expressions. -/
abbrev Subst := String → Option Expr

def Subst.erase (σ : Subst) (i : String) : Subst := fun x => if x = i then none else σ x

mutual
/-- **Simultaneous** substitution; the bound iterator of `big` is not replaced in the body. -/
def substF (σ : Subst) : Expr → Expr
  | num q => num q
  | sym s => match σ s with | some t => t | none => sym s
  | neg a => neg (substF σ a)
  | bin op a b => bin op (substF σ a) (substF σ b)
  | app f args => app f (substFList σ args)
  | big k body i lo hi => big k (substF (σ.erase i) body) i (substF σ lo) (substF σ hi)
def substFList (σ : Subst) : List Expr → List Expr
  | [] => []
  | a :: as => substF σ a :: substFList σ as
end

def subst (σ : Dict Expr) (e : Expr) : Expr := substF σ.get? e

/-- The sequential variant (`expr.subs(list)` without `simultaneous=True`): kept only for the
    counter-example theorems. -/
def substSeq (σ : List (String × Expr)) (e : Expr) : Expr :=
  σ.foldl (fun acc kv => subst [(kv.1, kv.2)] acc) e

mutual
def fv : Expr → List String
  | num _ => []
  | sym s => [s]
  | neg a => fv a
  | bin _ a b => fv a ++ fv b
  | app _ args => fvList args
  | big _ body i lo hi => (fv body).filter (· ≠ i) ++ fv lo ++ fv hi
def fvList : List Expr → List String
  | [] => []
  | a :: as => fv a ++ fvList as
end

mutual
/-- all iterator names bound somewhere inside the expression -/
def binders : Expr → List String
  | num _ => []
  | sym _ => []
  | neg a => binders a
  | bin _ a b => binders a ++ binders b
  | app _ args => bindersList args
  | big _ body i lo hi => i :: binders body ++ binders lo ++ binders hi
def bindersList : List Expr → List String
  | [] => []
  | a :: as => binders a ++ bindersList as
end

mutual
/-- names of called functions -/
def heads : Expr → List String
  | num _ => []
  | sym _ => []
  | neg a => heads a
  | bin _ a b => heads a ++ heads b
  | app f args => f :: headsList args
  | big _ body _ lo hi => heads body ++ heads lo ++ heads hi
def headsList : List Expr → List String
  | [] => []
  | a :: as => heads a ++ headsList as
end

mutual
def size : Expr → Nat
  | num _ => 1
  | sym _ => 1
  | neg a => size a + 1
  | bin _ a b => size a + size b + 1
  | app _ args => sizeList args + 1
  | big _ body _ lo hi => size body + size lo + size hi + 1
def sizeList : List Expr → Nat
  | [] => 0
  | a :: as => size a + sizeList as
end

end Expr

/-- An arbitrary interpretation of the expression language.  Everything is partial: division by
    zero, `0 ^ (-1)`, an unknown function at a given arity … are `none`. -/
structure Alg (V : Type) where
  lit : Rat → Option V
  neg : V → Option V
  bin : BinOp → V → V → Option V
  fn  : String → List V → Option V
  big : BigKind → V → V → (Int → Option V) → Option V

abbrev Env (V : Type) := String → Option V

def Env.update {V} (ρ : Env V) (i : String) (v : Option V) : Env V := fun x => if x = i then v else ρ x

namespace Expr
variable {V : Type}

mutual
def eval (A : Alg V) (ρ : Env V) : Expr → Option V
  | num q => A.lit q
  | sym s => ρ s
  | neg a => (eval A ρ a).bind A.neg
  | bin op a b => (eval A ρ a).bind fun x => (eval A ρ b).bind fun y => A.bin op x y
  | app f args => (evalList A ρ args).bind (A.fn f)
  | big k body i lo hi =>
      (eval A ρ lo).bind fun l => (eval A ρ hi).bind fun h =>
        A.big k l h (fun j => eval A (ρ.update i (A.lit (j : Rat))) body)
def evalList (A : Alg V) (ρ : Env V) : List Expr → Option (List V)
  | [] => some []
  | a :: as => (eval A ρ a).bind fun x => (evalList A ρ as).bind fun xs => some (x :: xs)
end

/-- the environment "ρ after σ": what a name means once σ's values are read in ρ -/
def under (A : Alg V) (ρ : Env V) (σ : Subst) : Env V :=
  fun s => match σ s with | some t => eval A ρ t | none => ρ s

end Expr

/-! ### the executable exact-rational interpretation -/
namespace RatAlg

def powInt (a : Rat) (n : Int) : Option Rat :=
  if n ≥ 0 then some (a ^ n.toNat)
  else if a = 0 then none else some ((a ^ (-n).toNat)⁻¹)

def bin : BinOp → Rat → Rat → Option Rat
  | .add, a, b => some (a + b)
  | .sub, a, b => some (a - b)
  | .mul, a, b => some (a * b)
  | .div, a, b => if b = 0 then none else some (a / b)
  | .pow, a, b => if b.den = 1 then powInt a b.num else (if a = 1 then some 1 else none)
  | .fdiv, a, b => if b = 0 then none else some ((a / b).floor : Rat)
  | .mod, a, b => if b = 0 then none else some (a - b * ((a / b).floor : Rat))

def listMax : List Rat → Option Rat
  | [] => none
  | a :: as => some (as.foldl max a)
def listMin : List Rat → Option Rat
  | [] => none
  | a :: as => some (as.foldl min a)

/-- built-ins with exact rational semantics; every other function is undefined here (the harness
    supplies pseudo-random surrogates on its side and never asks the model to evaluate them) -/
def fn (f : String) (args : List Rat) : Option Rat :=
  match f.toLower, args with
  | "max", as => listMax as
  | "min", as => listMin as
  | "floor", [a] => some (a.floor : Rat)
  | "ceiling", [a] => some (a.ceil : Rat)
  | "ceil", [a] => some (a.ceil : Rat)
  | "abs", [a] => some (if a < 0 then -a else a)
  | "mod", [a, b] => bin .mod a b
  | "frac", [a] => some (a - (a.floor : Rat))
  | "sum", as => some (as.foldl (· + ·) 0)
  | "prod", as => some (as.foldl (· * ·) 1)
  | _, _ => none

def bigFold (k : BigKind) (f : Int → Option Rat) (lo : Int) : Nat → Option Rat
  | 0 => some (match k with | .sum => 0 | .prod => 1)
  | n + 1 => (bigFold k f lo n).bind fun acc => (f (lo + n)).bind fun v =>
      some (match k with | .sum => acc + v | .prod => acc * v)

def big (k : BigKind) (lo hi : Rat) (f : Int → Option Rat) : Option Rat :=
  if lo.den = 1 ∧ hi.den = 1 then bigFold k f lo.num (hi.num + 1 - lo.num).toNat else none

end RatAlg

def Alg.rat : Alg Rat where
  lit := some
  neg := fun a => some (-a)
  bin := RatAlg.bin
  fn := RatAlg.fn
  big := RatAlg.big

end Bartiq
