/-
  BartiqModel.Parser — model of `symbolics/ast_parser.py` + `sympy_interpreter.py`:
  a lexer (replacing the five regex preprocessing stages and Python's tokenizer), a recursive-descent
  parser for the subset of the Python expression grammar that `_NodeConverter` accepts, producing a
  surface tree, and `interp`, which applies the operator / built-in tables (given as parameters; the
  checks instantiate them with `Generated.*`, regenerated from the source on every run).
-/
import BartiqModel.Basic
namespace Bartiq

inductive Tok where
  | num (q : Rat)
  | name (s : String)
  | plus | minus | star | slash | dslash | percent | pow
  | lp | rp | comma
deriving DecidableEq, Repr, Inhabited

/-- surface syntax tree: operators are still spelled as in the source (`^` is normalised to `**` by the
    lexer, as the real preprocessing does textually) -/
inductive SExpr where
  | num (q : Rat)
  | name (s : String)
  | neg (a : SExpr)
  | pos (a : SExpr)
  | bin (op : String) (a b : SExpr)
  | call (f : String) (args : List SExpr)
deriving Repr, Inhabited

/-! ### lexer -/
namespace Lex

def isDigit (c : Char) : Bool := '0' ≤ c && c ≤ '9'
def isIdStart (c : Char) : Bool := ('a' ≤ c && c ≤ 'z') || ('A' ≤ c && c ≤ 'Z') || c == '_'
def isIdChar (c : Char) : Bool := isIdStart c || isDigit c
/-- characters of a (namespaced / port) identifier: `a.b.#out_0` is ONE token -/
def isNameChar (c : Char) : Bool := isIdChar c || c == '.' || c == '#'
def isNameStart (c : Char) : Bool := isIdStart c || c == '#'

def digitVal (c : Char) : Nat := c.toNat - '0'.toNat

def takeWhile (p : Char → Bool) : List Char → List Char × List Char
  | [] => ([], [])
  | c :: cs => if p c then let (a, b) := takeWhile p cs; (c :: a, b) else ([], c :: cs)

theorem takeWhile_length (p : Char → Bool) (cs : List Char) : (takeWhile p cs).2.length ≤ cs.length := by
  induction cs with
  | nil => exact Nat.le_refl 0
  | cons c cs ih =>
    rw [takeWhile]
    split
    · exact Nat.le_succ_of_le ih
    · exact Nat.le_refl _

def natOfDigits (ds : List Char) : Nat := ds.foldl (fun n c => 10 * n + digitVal c) 0

/-- a numeric literal `123`, `1.5`, `2e3`, `1.5e-3`, exactly as a rational -/
def number (cs : List Char) : Option (Rat × List Char) :=
  let (ip, r1) := takeWhile isDigit cs
  let (fp, r2) := match r1 with
    | '.' :: r => takeWhile isDigit r
    | _ => ([], r1)
  if ip.isEmpty && fp.isEmpty then none else
  let mant : Rat := (natOfDigits (ip ++ fp) : Rat) / ((10 : Rat) ^ fp.length)
  match r2 with
  | e :: r =>
    if e == 'e' || e == 'E' then
      let (sgn, r') := match r with
        | '-' :: r' => (true, r')
        | '+' :: r' => (false, r')
        | _ => (false, r)
      let (ed, r3) := takeWhile isDigit r'
      if ed.isEmpty then some (mant, r2)
      else
        let ex := natOfDigits ed
        some (if sgn then mant / ((10 : Rat) ^ ex) else mant * ((10 : Rat) ^ ex), r3)
    else some (mant, r2)
  | [] => some (mant, r2)

def lexAux : Nat → List Char → Option (List Tok)
  | 0, [] => some []
  | 0, _ => none
  | _, [] => some []
  | fuel + 1, c :: cs =>
    if c == ' ' || c == '\t' || c == '\n' then lexAux fuel cs
    else if c == '(' then (lexAux fuel cs).map (Tok.lp :: ·)
    else if c == ')' then (lexAux fuel cs).map (Tok.rp :: ·)
    else if c == ',' then (lexAux fuel cs).map (Tok.comma :: ·)
    else if c == '+' then (lexAux fuel cs).map (Tok.plus :: ·)
    else if c == '-' then (lexAux fuel cs).map (Tok.minus :: ·)
    else if c == '%' then (lexAux fuel cs).map (Tok.percent :: ·)
    else if c == '^' then (lexAux fuel cs).map (Tok.pow :: ·)
    else if c == '*' then
      match cs with
      | '*' :: cs' => (lexAux fuel cs').map (Tok.pow :: ·)
      | _ => (lexAux fuel cs).map (Tok.star :: ·)
    else if c == '/' then
      match cs with
      | '/' :: cs' => (lexAux fuel cs').map (Tok.dslash :: ·)
      | _ => (lexAux fuel cs).map (Tok.slash :: ·)
    else if isDigit c || (c == '.' && (match cs with | d :: _ => isDigit d | [] => false)) then
      match number (c :: cs) with
      | some (q, rest) => (lexAux fuel rest).map (Tok.num q :: ·)
      | none => none
    else if isNameStart c then
      let (nm, rest) := takeWhile isNameChar (c :: cs)
      (lexAux fuel rest).map (Tok.name (String.ofList nm) :: ·)
    else none

def lex (s : String) : Option (List Tok) := lexAux (s.length + 1) s.toList

end Lex

/-! ### parser (fuelled recursive descent) -/

mutual
def pExpr : Nat → List Tok → Option (SExpr × List Tok)
  | 0, _ => none
  | f + 1, ts => match pTerm f ts with
    | some (a, r) => pExprTail f a r
    | none => none
def pExprTail : Nat → SExpr → List Tok → Option (SExpr × List Tok)
  | 0, _, _ => none
  | f + 1, acc, .plus :: r => match pTerm f r with
    | some (b, r') => pExprTail f (.bin "+" acc b) r'
    | none => none
  | f + 1, acc, .minus :: r => match pTerm f r with
    | some (b, r') => pExprTail f (.bin "-" acc b) r'
    | none => none
  | _ + 1, acc, ts => some (acc, ts)
def pTerm : Nat → List Tok → Option (SExpr × List Tok)
  | 0, _ => none
  | f + 1, ts => match pFactor f ts with
    | some (a, r) => pTermTail f a r
    | none => none
def pTermTail : Nat → SExpr → List Tok → Option (SExpr × List Tok)
  | 0, _, _ => none
  | f + 1, acc, .star :: r => match pFactor f r with
    | some (b, r') => pTermTail f (.bin "*" acc b) r'
    | none => none
  | f + 1, acc, .slash :: r => match pFactor f r with
    | some (b, r') => pTermTail f (.bin "/" acc b) r'
    | none => none
  | f + 1, acc, .dslash :: r => match pFactor f r with
    | some (b, r') => pTermTail f (.bin "//" acc b) r'
    | none => none
  | f + 1, acc, .percent :: r => match pFactor f r with
    | some (b, r') => pTermTail f (.bin "%" acc b) r'
    | none => none
  | _ + 1, acc, ts => some (acc, ts)
def pFactor : Nat → List Tok → Option (SExpr × List Tok)
  | 0, _ => none
  | f + 1, .minus :: r => match pFactor f r with
    | some (a, r') => some (.neg a, r')
    | none => none
  | f + 1, .plus :: r => match pFactor f r with
    | some (a, r') => some (.pos a, r')
    | none => none
  | f + 1, ts => pPower f ts
def pPower : Nat → List Tok → Option (SExpr × List Tok)
  | 0, _ => none
  | f + 1, ts => match pAtom f ts with
    | some (a, .pow :: r) => match pFactor f r with
      | some (b, r') => some (.bin "**" a b, r')
      | none => none
    | some (a, r) => some (a, r)
    | none => none
def pAtom : Nat → List Tok → Option (SExpr × List Tok)
  | 0, _ => none
  | _ + 1, .num q :: r => some (.num q, r)
  | f + 1, .name s :: .lp :: r => match pArgs f r with
    | some (args, r') => some (.call s args, r')
    | none => none
  | _ + 1, .name s :: r => some (.name s, r)
  | f + 1, .lp :: r => match pExpr f r with
    | some (e, .rp :: r') => some (e, r')
    | _ => none
  | _ + 1, _ => none
def pArgs : Nat → List Tok → Option (List SExpr × List Tok)
  | 0, _ => none
  | _ + 1, .rp :: r => some ([], r)
  | f + 1, ts => match pExpr f ts with
    | some (e, r) => pArgsTail f [e] r
    | none => none
def pArgsTail : Nat → List SExpr → List Tok → Option (List SExpr × List Tok)
  | 0, _, _ => none
  | f + 1, acc, .comma :: r => match pExpr f r with
    | some (e, r') => pArgsTail f (acc ++ [e]) r'
    | none => none
  | _ + 1, acc, .rp :: r => some (acc, r)
  | _ + 1, _, _ => none
end

def parseToks (ts : List Tok) : Option SExpr :=
  match pExpr (6 * ts.length + 10) ts with
  | some (e, []) => some e
  | _ => none

def parseStr (s : String) : Option SExpr := (Lex.lex s).bind parseToks

/-! ### interp: surface tree → `Expr`, through the tables -/

structure Tables where
  binOps : List (String × Option BinOp)
  unaryOps : List (String × String)
  builtins : List String
  specialParams : List String

def lookupOp (T : Tables) (op : String) : Option BinOp :=
  match T.binOps.find? (·.1 = op) with
  | some (_, some o) => some o
  | _ => none

def isBuiltin (T : Tables) (f : String) : Bool := T.builtins.contains f.toLower

mutual
def interp (T : Tables) : SExpr → Option Expr
  | .num q => some (.num q)
  | .name s => some (.sym s)
  | .neg a => match T.unaryOps.find? (·.1 = "-") with
    | some (_, "neg") => (interp T a).map .neg
    | some (_, "pos") => interp T a
    | _ => none
  | .pos a => match T.unaryOps.find? (·.1 = "+") with
    | some (_, "pos") => interp T a
    | some (_, "neg") => (interp T a).map .neg
    | _ => none
  | .bin op a b => match lookupOp T op, interp T a, interp T b with
    | some o, some x, some y => some (.bin o x y)
    | _, _, _ => none
  | .call f args => match interpList T args with
    | some xs =>
      -- built-ins are looked up by their lower-cased name; anything else stays uninterpreted as written
      if isBuiltin T f then
        (match f.toLower, xs with
         | "sum_over", [body, .sym i, lo, hi] => some (.big .sum body i lo hi)
         | "prod_over", [body, .sym i, lo, hi] => some (.big .prod body i lo hi)
         | g, xs => some (.app g xs))
      else some (.app f xs)
    | none => none
def interpList (T : Tables) : List SExpr → Option (List Expr)
  | [] => some []
  | a :: as => match interp T a, interpList T as with
    | some x, some xs => some (x :: xs)
    | _, _ => none
end

def parseExpr (T : Tables) (s : String) : Option Expr := (parseStr s).bind (interp T)

end Bartiq
