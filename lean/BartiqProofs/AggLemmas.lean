/-
  `transform.add_aggregated_resources` (BartiqModel/Aggregate.lean).  First the order of expansion: `_topological_sort` hands the
  dependency graph of the dictionary to graphlib's sorter (GraphLemmas.lean), so it fails exactly on the cyclic dictionaries, and
  what it returns passes the executable check `topoOK`.  Then the expansion `_expand_resource` / `_expand_aggregation_dict` along
  any order that passes this check, read in an arbitrary commutative semiring.
-/
import BartiqModel.Aggregate
import BartiqProofs.GraphLemmas
import Mathlib.Algebra.Ring.Defs
namespace Bartiq

theorem aggOrder_eq (d : AggDict) : aggOrder d = Graph.staticOrder (depGraph Dict.keys d) := rfl

/-- `r` is decomposed (possibly through several nested entries) into the decomposed resource `t` -/
inductive DecomposesInto (d : AggDict) : String → String → Prop
  | step {r t m} : d.get? r = some m → t ∈ m.keys → d.contains t = true → DecomposesInto d r t
  | trans {r s t} : DecomposesInto d r s → DecomposesInto d s t → DecomposesInto d r t

theorem before_of_decomposesInto (d : AggDict) {r t : String} (h : DecomposesInto d r t) :
    Graph.Before (depGraph Dict.keys d) t r := by
  induction h with
  | step hg ht hc => exact .edge (mem_edges_depGraph.mpr ⟨_, Dict.get?_some_mem d _ _ hg, ht, hc⟩)
  | trans _ _ ih1 ih2 => exact .trans ih2 ih1

theorem decomposesInto_of_before (d : AggDict) (hk : d.keys.Nodup) {t r : String} (h : Graph.Before (depGraph Dict.keys d) t r) :
    DecomposesInto d r t := by
  induction h with
  | edge he =>
    obtain ⟨m, hm, ht, hc⟩ := mem_edges_depGraph.mp he
    exact .step (Dict.get?_of_mem_nodup d _ m hk hm) ht hc
  | trans _ _ ih1 ih2 => exact .trans ih2 ih1

theorem aggOrder_none_iff (d : AggDict) (hk : d.keys.Nodup) : aggOrder d = none ↔ ∃ r, DecomposesInto d r r := by
  rw [aggOrder_eq, Graph.staticOrder_none_iff]
  exact ⟨fun ⟨a, h⟩ => ⟨a, decomposesInto_of_before d hk h⟩, fun ⟨r, h⟩ => ⟨r, before_of_decomposesInto d h⟩⟩

theorem aggOrder_none_of_cycle (d : AggDict) (r : String) (h : DecomposesInto d r r) : aggOrder d = none :=
  Graph.staticOrder_none_of_cycle _ r (before_of_decomposesInto d h)

theorem topoOK_cons {d : AggDict} {done rest : List String} {r : String} :
    topoOK d done (r :: rest) = true ↔ r ∉ done ∧ d.contains r = true ∧
      (∀ t ∈ ((d.get? r).getD []).keys, d.contains t = true → t ∈ done) ∧ topoOK d (done ++ [r]) rest = true := by
  simp [topoOK, and_assoc, imp_iff_not_or]

theorem topoOK_of_respects (d : AggDict) : ∀ (todo done : List String), (done ++ todo).Nodup →
    (∀ x ∈ todo, d.contains x = true) → Graph.respects (depGraph Dict.keys d) done todo = true → topoOK d done todo = true
  | [], _, _, _, _ => rfl
  | r :: rest, done, hnd, hkeys, hres => by
    obtain ⟨hpreds, hrest⟩ := Graph.respects_cons.mp hres
    have hr := hkeys r List.mem_cons_self
    obtain ⟨m, hg⟩ := Option.isSome_iff_exists.mp hr
    refine topoOK_cons.mpr ⟨fun hm => List.disjoint_of_nodup_append hnd hm List.mem_cons_self, hr, ?_,
      topoOK_of_respects d rest (done ++ [r]) (by simpa using hnd) (fun x hx => hkeys x (List.mem_cons_of_mem _ hx)) hrest⟩
    rw [hg]
    exact fun t ht hc => hpreds t (mem_edges_depGraph.mpr ⟨m, Dict.get?_some_mem d r m hg, ht, hc⟩)

/-- **the order `_topological_sort` returns is a valid expansion order** -/
theorem aggOrder_topoOK (d : AggDict) (order : List String) (h : aggOrder d = some order) : topoOK d [] order = true :=
  have ⟨h1, h2, h3⟩ := Graph.staticOrder_spec _ order h
  topoOK_of_respects d order [] h1 (fun x hx => contains_of_mem_nodes_depGraph (h2 x hx)) h3

variable {R : Type} [CommSemiring R]

/-- an interpretation of expressions that respects + and × -/
structure RingEval (ev : Expr → R) : Prop where
  add : ∀ a b, ev (.bin .add a b) = ev a + ev b
  mul : ∀ a b, ev (.bin .mul a b) = ev a * ev b

/-- the multiplier a mapping gives to target `b` (0 when `b` is not a target) -/
def dval (ev : Expr → R) (m : Dict Expr) (b : String) : R :=
  match m.get? b with
  | some e => ev e
  | none => 0

theorem dval_of_get? {ev : Expr → R} {m : Dict Expr} {b : String} {e : Expr} (h : m.get? b = some e) : dval ev m b = ev e := by
  rw [dval, h]

theorem dval_cons (ev : Expr → R) (k : String) (e : Expr) (m : Dict Expr) (b : String) :
    dval ev ((k, e) :: m) b = if k = b then ev e else dval ev m b := by
  unfold dval
  rw [Dict.get?_cons]
  split_ifs <;> rfl

theorem dval_erase (ev : Expr → R) (m : Dict Expr) (k b : String) : dval ev (m.erase k) b = if b = k then 0 else dval ev m b := by
  unfold dval
  rw [Dict.get?_erase]
  split_ifs <;> rfl

/-- `m[k] += e`, or `m[k] = e` for a new key: the update the inner loop of `_expand_resource` makes -/
def addAt (m : Dict Expr) (k : String) (e : Expr) : Dict Expr :=
  match m.get? k with
  | some old => m.set k (.bin .add old e)
  | none => m.set k e

theorem expandInto_cons (m : Dict Expr) (cur k : String) (e : Expr) (rest : Dict Expr) :
    expandInto m cur ((k, e) :: rest) = expandInto (addAt m k (.bin .mul ((m.get? cur).getD (.num 0)) e)) cur rest := rfl

theorem get?_addAt_of_ne (m : Dict Expr) {k k' : String} (e : Expr) (h : k ≠ k') : (addAt m k e).get? k' = m.get? k' := by
  unfold addAt
  split <;> rw [Dict.get?_set, if_neg h]

theorem dval_addAt {ev : Expr → R} (hev : RingEval ev) (m : Dict Expr) (k : String) (e : Expr) (b : String) :
    dval ev (addAt m k e) b = dval ev m b + if k = b then ev e else 0 := by
  unfold addAt dval
  by_cases hb : k = b
  · subst hb
    cases m.get? k <;> simp [Dict.get?_set, hev.add]
  · cases m.get? k <;> simp [Dict.get?_set, hb]

theorem addAt_nodup (m : Dict Expr) (k : String) (e : Expr) (h : m.keys.Nodup) : (addAt m k e).keys.Nodup := by
  unfold addAt
  split <;> exact Dict.nodupKeys_set _ _ _ h

theorem expandInto_get? (cur : String) : ∀ (sub m : Dict Expr) (k : String), sub.get? k = none →
    (expandInto m cur sub).get? k = m.get? k
  | [], _, _, _ => rfl
  | (k', e) :: rest, m, k, h => by
    obtain ⟨hk, h⟩ := Dict.get?_cons_eq_none.mp h
    rw [expandInto_cons, expandInto_get? cur rest _ k h, get?_addAt_of_ne m _ hk]

/-- `cur` is no target of `sub`, so its own multiplier is the same at every step -/
theorem expandInto_dval {ev : Expr → R} (hev : RingEval ev) (cur : String) : ∀ (sub m : Dict Expr), sub.keys.Nodup →
    sub.get? cur = none → ∀ b, dval ev (expandInto m cur sub) b = dval ev m b + ev ((m.get? cur).getD (.num 0)) * dval ev sub b
  | [], m, _, _, b => by simp [expandInto, dval]
  | (k, e) :: rest, m, hn, hc, b => by
    obtain ⟨hk, hn'⟩ := List.nodup_cons.mp hn
    have h0 : dval ev rest k = 0 := by rw [dval, Dict.get?_eq_none_iff.mpr hk]
    obtain ⟨hkc, hc⟩ := Dict.get?_cons_eq_none.mp hc
    rw [expandInto_cons, expandInto_dval hev cur rest _ hn' hc b, get?_addAt_of_ne m _ hkc, dval_addAt hev, dval_cons]
    by_cases hb : k = b
    · subst hb
      rw [if_pos rfl, if_pos rfl, hev.mul, h0, mul_zero, add_zero]
    · rw [if_neg hb, if_neg hb, add_zero]

theorem expandInto_nodup (cur : String) : ∀ (sub m : Dict Expr), m.keys.Nodup → (expandInto m cur sub).keys.Nodup
  | [], _, h => h
  | (_, _) :: rest, _, h => expandInto_nodup cur rest _ (addAt_nodup _ _ _ h)

/-- one iteration of the outer loop of `_expand_resource` -/
def erStep (d E : AggDict) (m : Dict Expr) (cur : String) : Dict Expr :=
  let m := expandInto m cur ((E.get? cur).getD [])
  if d.contains cur then m.erase cur else m

theorem expandResource_eq (d E : AggDict) (r : String) :
    expandResource d E r = ((d.get? r).getD []).keys.foldl (erStep d E) ((d.get? r).getD []) := rfl

theorem erStep_nodup (d E : AggDict) (m : Dict Expr) (cur : String) (h : m.keys.Nodup) : (erStep d E m cur).keys.Nodup := by
  simp only [erStep]
  split
  · exact Dict.nodupKeys_erase _ _ (expandInto_nodup cur _ m h)
  · exact expandInto_nodup cur _ m h

theorem expandResource_nodup (d E : AggDict) (r : String) (h : ((d.get? r).getD []).keys.Nodup) :
    (expandResource d E r).keys.Nodup :=
  List.foldlRecOn (motive := fun m : Dict Expr => m.keys.Nodup) _ (erStep d E) h fun m hm cur _ => erStep_nodup d E m cur hm

/-- what `_expand_resource` relies on in the dictionary expanded so far: every entry belongs to a decomposed resource and is
    final — distinct targets, none of them decomposed -/
def ExpandedOK (d E : AggDict) : Prop :=
  ∀ cur sub, E.get? cur = some sub → d.contains cur = true ∧ sub.keys.Nodup ∧ ∀ k, d.contains k = true → sub.get? k = none

/-- the same about the mapping the loop looks up for `cur` (empty when `cur` has no entry) -/
theorem ExpandedOK.getD {d E : AggDict} (hE : ExpandedOK d E) (cur : String) :
    (d.contains cur = false → (E.get? cur).getD [] = []) ∧ ((E.get? cur).getD []).keys.Nodup ∧
      ∀ k, d.contains k = true → ((E.get? cur).getD []).get? k = none := by
  cases hg : E.get? cur with
  | none => exact ⟨fun _ => rfl, List.nodup_nil, fun _ _ => rfl⟩
  | some sub =>
    obtain ⟨hc, hn, hb⟩ := hE cur sub hg
    exact ⟨fun h => absurd (hc.symm.trans h) nofun, hn, hb⟩

/-- Σ over the decomposed targets `t` of `r` of (multiplier of `t` in `d[r]`) × (what the expanded `t` gives `b`) -/
def viaDecomposed (ev : Expr → R) (d E : AggDict) (r b : String) : R :=
  ((((d.get? r).getD []).keys.filter fun t => d.contains t).map
    fun t => dval ev ((d.get? r).getD []) t * dval ev ((E.get? t).getD []) b).sum

/-- the same sum with the multipliers read in `m` and the targets taken from `ks`: what the loop of `_expand_resource` has still to add
    when it stands at `m` with `ks` to go (`viaDecomposed ev d E r b` is `contrib ev d E d[r] d[r].keys b` by definition) -/
def contrib (ev : Expr → R) (d E : AggDict) (m : Dict Expr) (ks : List String) (b : String) : R :=
  ((ks.filter fun cur => d.contains cur).map fun cur => dval ev m cur * dval ev ((E.get? cur).getD []) b).sum

theorem contrib_cons (ev : Expr → R) (d E : AggDict) (m : Dict Expr) (cur : String) (ks : List String) (b : String) :
    contrib ev d E m (cur :: ks) b =
      (if d.contains cur = true then dval ev m cur * dval ev ((E.get? cur).getD []) b else 0) + contrib ev d E m ks b := by
  unfold contrib
  rw [List.filter_cons]
  split <;> simp

theorem contrib_congr (ev : Expr → R) (d : AggDict) {E E' : AggDict} {m m' : Dict Expr} (ks : List String) (b : String)
    (hm : ∀ k ∈ ks, d.contains k = true → m.get? k = m'.get? k)
    (hE : ∀ k ∈ ks, d.contains k = true → (E.get? k).getD [] = (E'.get? k).getD []) :
    contrib ev d E m ks b = contrib ev d E' m' ks b := by
  unfold contrib
  congr 1
  apply List.map_congr_left
  intro k hk
  rw [List.mem_filter] at hk
  simp only [dval, hm k hk.1 hk.2, hE k hk.1 hk.2]

theorem viaDecomposed_congr (ev : Expr → R) (d : AggDict) {E E' : AggDict} (r b : String)
    (h : ∀ t ∈ ((d.get? r).getD []).keys, d.contains t = true → (E.get? t).getD [] = (E'.get? t).getD []) :
    viaDecomposed ev d E r b = viaDecomposed ev d E' r b :=
  contrib_congr ev d _ b (fun _ _ _ => rfl) h

theorem erStep_get? {d E : AggDict} (hE : ExpandedOK d E) (m : Dict Expr) (cur : String) {k : String} (hk : d.contains k = true) :
    (erStep d E m cur).get? k = if k = cur then none else m.get? k := by
  have hsub := expandInto_get? cur _ m k ((hE.getD cur).2.2 k hk)
  simp only [erStep]
  by_cases hc : d.contains cur = true
  · rw [if_pos hc, Dict.get?_erase, hsub]
  · rw [if_neg hc, hsub, if_neg (by rintro rfl; exact hc hk)]

theorem erFold_get? {d E : AggDict} (hE : ExpandedOK d E) {k : String} (hk : d.contains k = true) :
    ∀ (ks : List String) (m : Dict Expr), (ks.foldl (erStep d E) m).get? k = if k ∈ ks then none else m.get? k
  | [], _ => rfl
  | cur :: rest, m => by
    rw [List.foldl_cons, erFold_get? hE hk rest, erStep_get? hE m cur hk]
    by_cases h1 : k ∈ rest <;> by_cases h2 : k = cur <;> simp [h1, h2]

/-- an iteration adds the term that `contrib` has for `cur` — nothing when `cur` is a base resource, which has no entry -/
theorem erStep_dval {d E : AggDict} (hE : ExpandedOK d E) {ev : Expr → R} (hev : RingEval ev) {b : String}
    (hb : d.contains b = false) (m : Dict Expr) (cur : String) (hcur : d.contains cur = true → ∃ c, m.get? cur = some c) :
    dval ev (erStep d E m cur) b =
      dval ev m b + if d.contains cur = true then dval ev m cur * dval ev ((E.get? cur).getD []) b else 0 := by
  obtain ⟨h0, hn, hbase⟩ := hE.getD cur
  simp only [erStep]
  by_cases hc : d.contains cur = true
  · obtain ⟨c, hmc⟩ := hcur hc
    rw [if_pos hc, if_pos hc, dval_erase, if_neg (by rintro rfl; exact absurd (hc.symm.trans hb) nofun),
      expandInto_dval hev cur _ m hn (hbase cur hc), dval_of_get? hmc, hmc]
    rfl
  · rw [if_neg hc, if_neg hc, h0 (by simpa using hc), add_zero]
    rfl

/-- each decomposed target is processed once (`ks` has no repetitions), with the multiplier it had at the start: the iterations
    before it leave it alone (`erStep_get?`) -/
theorem erFold_dval {d E : AggDict} (hE : ExpandedOK d E) {ev : Expr → R} (hev : RingEval ev) {b : String}
    (hb : d.contains b = false) : ∀ (ks : List String) (m : Dict Expr), ks.Nodup →
    (∀ k ∈ ks, d.contains k = true → ∃ c, m.get? k = some c) →
    dval ev (ks.foldl (erStep d E) m) b = dval ev m b + contrib ev d E m ks b
  | [], m, _, _ => by simp [contrib]
  | cur :: rest, m, hnd, hsome => by
    obtain ⟨hcr, hnd'⟩ := List.nodup_cons.mp hnd
    have hkeep : ∀ k ∈ rest, d.contains k = true → (erStep d E m cur).get? k = m.get? k := fun k hk hkd => by
      rw [erStep_get? hE m cur hkd, if_neg (by rintro rfl; exact hcr hk)]
    rw [List.foldl_cons, erFold_dval hE hev hb rest _ hnd' fun k hk hkd => hkeep k hk hkd ▸ hsome k (List.mem_cons_of_mem _ hk) hkd,
      contrib_congr ev d rest b hkeep fun _ _ _ => rfl, erStep_dval hE hev hb m cur (hsome cur List.mem_cons_self), contrib_cons,
      add_assoc]

theorem expandResource_spec {ev : Expr → R} (hev : RingEval ev) {d E : AggDict} (hE : ExpandedOK d E) (r : String)
    (hnd : ((d.get? r).getD []).keys.Nodup) :
    (∀ k, d.contains k = true → (expandResource d E r).get? k = none) ∧
    ∀ b, d.contains b = false →
      dval ev (expandResource d E r) b = dval ev ((d.get? r).getD []) b + viaDecomposed ev d E r b := by
  rw [expandResource_eq]
  refine ⟨fun k hk => ?_, fun b hb => ?_⟩
  · rw [erFold_get? hE hk]
    split
    · rfl
    · exact Dict.get?_eq_none_iff.mpr ‹_›
  · exact erFold_dval hE hev hb _ _ hnd fun k hk _ => Option.ne_none_iff_exists'.mp fun h => Dict.get?_eq_none_iff.mp h hk

/-- the expanded mapping of `r` is final: distinct targets, all of them base resources, and each base resource `b` weighted by
    the PATH-SUM RECURRENCE  W(r,b) = w(r,b) + Σ_t w(r,t) · W(t,b)  (t ranging over the decomposed targets of r) -/
def Expanded (ev : Expr → R) (d E : AggDict) (r : String) : Prop :=
  ∃ m, E.get? r = some m ∧ m.keys.Nodup ∧ (∀ k, d.contains k = true → m.get? k = none) ∧
    ∀ b, d.contains b = false → dval ev m b = dval ev ((d.get? r).getD []) b + viaDecomposed ev d E r b

def expStep (d : AggDict) (E : AggDict) (r : String) : AggDict := E.set r (expandResource d E r)

theorem expandAggregation_eq (d : AggDict) (order : List String) (h : aggOrder d = some order) :
    expandAggregation d = .ok (order.foldl (expStep d) []) := by
  unfold expandAggregation
  rw [h]
  rfl

theorem addAggregatedResources_eq (d : AggDict) (remove : Bool) (c : CRoutine) :
    addAggregatedResources d remove c = match aggOrder d with
      | none => .error (.value "nodes are in a cycle")
      | some order => .ok (aggregateTree (order.foldl (expStep d) []) remove c) := by
  unfold addAggregatedResources expandAggregation
  cases aggOrder d <;> rfl

/-- the invariant of `_expand_aggregation_dict` after the resources `done` -/
structure ExpInv (ev : Expr → R) (d : AggDict) (done : List String) (E : AggDict) : Prop where
  dom : ∀ r m, E.get? r = some m → r ∈ done
  closed : ∀ r ∈ done, d.contains r = true ∧ ∀ t ∈ ((d.get? r).getD []).keys, d.contains t = true → t ∈ done
  expanded : ∀ r ∈ done, Expanded ev d E r

theorem ExpInv.expandedOK {ev : Expr → R} {d E : AggDict} {done : List String} (h : ExpInv ev d done E) : ExpandedOK d E :=
  fun cur sub hg => by
    obtain ⟨m, hm, hn, hb, _⟩ := h.expanded cur (h.dom cur sub hg)
    cases hg.symm.trans hm
    exact ⟨(h.closed cur (h.dom cur sub hg)).1, hn, hb⟩

theorem ExpInv.step {ev : Expr → R} (hev : RingEval ev) {d E : AggDict} {done : List String} (h : ExpInv ev d done E) {r : String}
    (hD : ((d.get? r).getD []).keys.Nodup) (hr : r ∉ done) (hrd : d.contains r = true)
    (htg : ∀ t ∈ ((d.get? r).getD []).keys, d.contains t = true → t ∈ done) : ExpInv ev d (done ++ [r]) (expStep d E r) := by
  have hget : ∀ k, k ≠ r → (expStep d E r).get? k = E.get? k := fun k hk => by rw [expStep, Dict.get?_set, if_neg (Ne.symm hk)]
  have hcl : ∀ r' ∈ done ++ [r], d.contains r' = true ∧ ∀ t ∈ ((d.get? r').getD []).keys, d.contains t = true → t ∈ done := by
    intro r' hr'
    rcases List.mem_append.mp hr' with hr' | hr'
    · exact h.closed r' hr'
    · cases List.mem_singleton.mp hr'
      exact ⟨hrd, htg⟩
  -- nothing done before reads the entry of `r`, so what was expanded stays expanded
  have hvia : ∀ r' ∈ done ++ [r], ∀ b, viaDecomposed ev d (expStep d E r) r' b = viaDecomposed ev d E r' b := fun r' hr' b =>
    viaDecomposed_congr ev d r' b fun t ht hk => by rw [hget t fun e => hr (e ▸ (hcl r' hr').2 t ht hk)]
  obtain ⟨s1, s2⟩ := expandResource_spec hev h.expandedOK r hD
  constructor
  case dom =>
    intro k m hk
    by_cases e : k = r
    · exact e ▸ List.mem_append_right _ List.mem_cons_self
    · exact List.mem_append_left _ (h.dom k m (hget k e ▸ hk))
  case closed => exact fun r' hr' => ⟨(hcl r' hr').1, fun t ht hk => List.mem_append_left _ ((hcl r' hr').2 t ht hk)⟩
  case expanded =>
    intro r' hr'
    rcases List.mem_append.mp hr' with hd | hd
    · obtain ⟨m, hm, hn, hb, hv⟩ := h.expanded r' hd
      exact ⟨m, (hget r' fun e => hr (e ▸ hd)).trans hm, hn, hb, fun b hbb => by rw [hv b hbb, hvia r' hr' b]⟩
    · cases List.mem_singleton.mp hd
      exact ⟨_, by rw [expStep, Dict.get?_set, if_pos rfl], expandResource_nodup d E r hD, s1,
        fun b hbb => by rw [s2 b hbb, hvia r hr' b]⟩

theorem expFold_spec {ev : Expr → R} (hev : RingEval ev) {d : AggDict} (hD : ∀ r, ((d.get? r).getD []).keys.Nodup) :
    ∀ (todo done : List String) (E : AggDict), topoOK d done todo = true → ExpInv ev d done E →
      ExpInv ev d (done ++ todo) (todo.foldl (expStep d) E)
  | [], _, _, _, h => by rwa [List.append_nil]
  | r :: rest, done, E, ht, h => by
    obtain ⟨hr, hrd, htg, hrest⟩ := topoOK_cons.mp ht
    have := expFold_spec hev hD rest _ _ hrest (h.step hev (hD r) hr hrd htg)
    rwa [List.append_assoc] at this

end Bartiq
