/-
  `functions_map` (BartiqModel/Functions.lean): the rewriting `defineFn` reaches every call of
  the named function, and the rewritten expression means the original one read in the interpretation where the name means
  the user's implementation.
-/
import BartiqModel.Functions
import BartiqProofs.DictLemmas
import BartiqProofs.ExprLemmas
namespace Bartiq
open Expr
variable {V : Type}

/-- `A` with `I.name` (at the arity of `I.params`) interpreted by the implementation: the body is evaluated, in `A`, in the
    environment that binds the parameters to the argument values -/
def Alg.withFn (A : Alg V) (I : FnImpl) : Alg V :=
  { A with fn := fun g vs =>
      if g = I.name ∧ vs.length = I.params.length then eval A (fun x => Dict.get? (I.params.zip vs) x) I.body else A.fn g vs }

/-- later entries of the dictionary are defined first from the point of view of an earlier body: calls the earlier
    implementation introduces are rewritten by the later steps -/
def Alg.withFns (A : Alg V) : List FnImpl → Alg V
  | [] => A
  | I :: Is => (A.withFns Is).withFn I

theorem defineFnList_eq_map (I : FnImpl) : ∀ es, defineFnList I es = es.map (defineFn I)
  | [] => rfl
  | a :: as => by rw [defineFnList, defineFnList_eq_map I as]; rfl

theorem under_zip (A : Alg V) (ρ : Env V) : ∀ (ps : List String) (ts : List Expr) (vs : List V), ps.length = ts.length →
    evalList A ρ ts = some vs → ∀ x ∈ ps, under A ρ (Dict.get? (ps.zip ts)) x = Dict.get? (ps.zip vs) x
  | p :: ps, t :: ts, _, hl, hev, x, hx => by
    obtain ⟨v, hv, vs, hvs, rfl⟩ := evalList_cons_eq_some.mp hev
    rw [List.zip_cons_cons, List.zip_cons_cons, under_get?_cons, update_apply, Dict.get?_cons]
    by_cases hxp : x = p
    · rw [if_pos hxp, if_pos hxp.symm]; exact hv
    · rw [if_neg hxp, if_neg (Ne.symm hxp)]
      exact under_zip A ρ ps ts vs (Nat.succ.inj hl) hvs x ((List.mem_cons.mp hx).resolve_left hxp)

theorem under_zip_none (A : Alg V) (ρ : Env V) : ∀ (ps : List String) (ts : List Expr), ps.length = ts.length → ps.Nodup →
    evalList A ρ ts = none → ∃ x ∈ ps, under A ρ (Dict.get? (ps.zip ts)) x = none
  | [], [], _, _, h => nomatch h
  | p :: ps, t :: ts, hl, hnd, hev => by
    rw [List.zip_cons_cons, under_get?_cons]
    rcases evalList_cons_eq_none.mp hev with ht | hts
    · exact ⟨p, List.mem_cons_self, by rw [update_apply, if_pos rfl]; exact ht⟩
    · obtain ⟨x, hx, hu⟩ := under_zip_none A ρ ps ts (Nat.succ.inj hl) (List.nodup_cons.mp hnd).2 hts
      refine ⟨x, List.mem_cons_of_mem _ hx, ?_⟩
      rw [update_apply, if_neg fun hxp : x = p => (List.nodup_cons.mp hnd).1 (hxp ▸ hx)]
      exact hu

/-- hypotheses on an implementation: a closed formula in its distinct parameters, all of which it uses, without iterators -/
structure FnImpl.Plain (I : FnImpl) : Prop where
  noBinders : binders I.body = []
  closed : ∀ x ∈ fv I.body, x ∈ I.params
  usesAll : ∀ p ∈ I.params, p ∈ fv I.body
  distinct : I.params.Nodup

/-- **functions_map is interpretation**: the rewritten expression has, in every interpretation `A` and environment, exactly
    the value (or undefinedness) of the original expression read with the name interpreted by the implementation -/
theorem eval_defineFn (A : Alg V) (I : FnImpl) (hI : I.Plain) : ∀ (e : Expr) (ρ : Env V),
    eval A ρ (defineFn I e) = eval (A.withFn I) ρ e := by
  intro e ρ
  induction e using Expr.ind generalizing ρ with
  | hnum q => rfl
  | hsym s => rfl
  | hneg a ih => rw [defineFn, eval, ih ρ]; rfl
  | hbin op a b iha ihb => rw [defineFn, eval, iha ρ, ihb ρ]; rfl
  | hbig k body i lo hi ihb ihl ihh =>
    simp only [defineFn, eval, ihl ρ, ihh ρ, ihb]; rfl
  | happ g args ih =>
    have ihl : evalList A ρ (defineFnList I args) = evalList (A.withFn I) ρ args :=
      defineFnList_eq_map I args ▸ evalList_map_congr _ args fun a ha => ih a ha ρ
    simp only [defineFn]
    by_cases hc : g = I.name ∧ (defineFnList I args).length = I.params.length
    · -- a call of the function: the body with the parameters replaced by the rewritten arguments
      rw [if_pos hc, eval_subst A _ ρ _ (noCapture_of_no_binders hI.noBinders), eval, ← ihl]
      cases hev : evalList A ρ (defineFnList I args) with
      | some vs =>
        have hlen := evalList_length A ρ _ vs hev
        simp only [Option.bind_some, Alg.withFn, hlen, hc.1, hc.2, and_self, if_true]
        exact eval_congr A _ _ _ fun x hx => under_zip A ρ I.params _ vs hc.2.symm hev x (hI.closed x hx)
      | none =>
        -- an undefined argument makes its parameter undefined, and the body uses every parameter
        obtain ⟨x, hx, hu⟩ := under_zip_none A ρ I.params _ hc.2.symm hI.distinct hev
        rw [eval_strict A I.body _ x (.inl hI.noBinders) (hI.usesAll x hx) hu]; rfl
    · rw [if_neg hc, eval, eval, ← ihl]
      cases hev : evalList A ρ (defineFnList I args) with
      | none => rfl
      | some vs =>
        have : ¬ (g = I.name ∧ vs.length = I.params.length) := evalList_length A ρ _ vs hev ▸ hc
        simp [Alg.withFn, this]

theorem evalList_defineFn (A : Alg V) (I : FnImpl) (hI : I.Plain) : ∀ (es : List Expr) (ρ : Env V),
    evalList A ρ (defineFnList I es) = evalList (A.withFn I) ρ es :=
  fun es ρ => defineFnList_eq_map I es ▸ evalList_map_congr _ es fun a _ => eval_defineFn A I hI a ρ

theorem eval_defineFns (Is : List FnImpl) (hIs : ∀ I ∈ Is, I.Plain) : ∀ (A : Alg V) (e : Expr) (ρ : Env V),
    eval A ρ (defineFns Is e) = eval (A.withFns Is) ρ e := by
  induction Is with
  | nil => intro A e ρ; rfl
  | cons I Is ih =>
    intro A e ρ
    have : defineFns (I :: Is) e = defineFns Is (defineFn I e) := rfl
    rw [this, ih (fun J hJ => hIs J (List.mem_cons_of_mem _ hJ)) A (defineFn I e) ρ]
    exact eval_defineFn (A.withFns Is) I (hIs I List.mem_cons_self) e ρ

theorem heads_substF (e : Expr) (σ : Subst) (h : String) (hh : h ∈ heads (substF σ e)) :
    h ∈ heads e ∨ ∃ x t, σ x = some t ∧ h ∈ heads t := by
  induction e using Expr.ind generalizing σ with
  | hnum q => cases hh
  | hsym s =>
    simp only [substF] at hh
    cases hs : σ s with
    | none => rw [hs] at hh; cases hh
    | some t => rw [hs] at hh; exact .inr ⟨s, t, hs, hh⟩
  | hneg a ih => exact ih σ hh
  | hbin op a b iha ihb =>
    rcases List.mem_append.mp hh with hh | hh
    · exact (iha σ hh).imp_left (List.mem_append_left _)
    · exact (ihb σ hh).imp_left (List.mem_append_right _)
  | happ f args ih =>
    rw [substF, heads, substFList_eq_map] at hh
    rcases List.mem_cons.mp hh with rfl | hh
    · exact .inl List.mem_cons_self
    · obtain ⟨a, ha, hh⟩ := mem_headsList_map.mp hh
      exact (ih a ha σ hh).imp_left fun h => List.mem_cons_of_mem _ (mem_headsList.mpr ⟨a, ha, h⟩)
  | hbig k body i lo hi ihb ihl ihh =>
    simp only [substF, heads, List.mem_append] at hh ⊢
    rcases hh with (hh | hh) | hh
    · rcases ihb (σ.erase i) hh with h1 | ⟨x, t, hx, ht⟩
      · exact .inl (.inl (.inl h1))
      · exact .inr ⟨x, t, (Subst.erase_eq_some.mp hx).2, ht⟩
    · exact (ihl σ hh).imp_left fun h => .inl (.inr h)
    · exact (ihh σ hh).imp_left .inr

theorem headsList_substF : ∀ (es : List Expr) (σ : Subst) (h : String), h ∈ headsList (substFList σ es) →
    h ∈ headsList es ∨ ∃ x t, σ x = some t ∧ h ∈ heads t := by
  intro es σ h hh
  rw [substFList_eq_map] at hh
  obtain ⟨a, ha, hh⟩ := mem_headsList_map.mp hh
  exact (heads_substF a σ h hh).imp_left fun h => mem_headsList.mpr ⟨a, ha, h⟩

mutual
/-- every call of the name has the arity of the implementation -/
def arityOK (I : FnImpl) : Expr → Bool
  | num _ => true
  | sym _ => true
  | neg a => arityOK I a
  | bin _ a b => arityOK I a && arityOK I b
  | app g args => (g != I.name || args.length == I.params.length) && arityOKList I args
  | big _ body _ lo hi => arityOK I body && arityOK I lo && arityOK I hi
def arityOKList (I : FnImpl) : List Expr → Bool
  | [] => true
  | a :: as => arityOK I a && arityOKList I as
end

theorem arityOKList_eq_all (I : FnImpl) : ∀ es, arityOKList I es = es.all (arityOK I)
  | [] => rfl
  | a :: as => by rw [arityOKList, arityOKList_eq_all I as]; rfl

theorem defineFn_no_calls (I : FnImpl) (hb : I.name ∉ heads I.body) (e : Expr) (h : arityOK I e = true) :
    I.name ∉ heads (defineFn I e) := by
  induction e using Expr.ind with
  | hnum q => exact List.not_mem_nil
  | hsym s => exact List.not_mem_nil
  | hneg a ih => exact ih h
  | hbin op a b iha ihb =>
    simp only [arityOK, Bool.and_eq_true] at h
    simp only [defineFn, heads, List.mem_append, not_or]
    exact ⟨iha h.1, ihb h.2⟩
  | hbig k body i lo hi ihb ihl ihh =>
    simp only [arityOK, Bool.and_eq_true] at h
    simp only [defineFn, heads, List.mem_append, not_or]
    exact ⟨⟨ihb h.1.1, ihl h.1.2⟩, ihh h.2⟩
  | happ g args ih =>
    simp only [arityOK, arityOKList_eq_all, Bool.and_eq_true, Bool.or_eq_true, bne_iff_ne, ne_eq, beq_iff_eq, List.all_eq_true] at h
    have ihl : I.name ∉ headsList (defineFnList I args) := fun hin => by
      rw [defineFnList_eq_map] at hin
      obtain ⟨a, ha, hin⟩ := mem_headsList_map.mp hin
      exact ih a ha (h.2 a ha) hin
    simp only [defineFn]
    by_cases hc : g = I.name ∧ (defineFnList I args).length = I.params.length
    · -- what replaces the call is the body (no call of the name) with rewritten arguments (none either) put in
      rw [if_pos hc]
      intro hin
      rcases heads_substF I.body _ _ hin with h1 | ⟨x, t, hx, ht⟩
      · exact hb h1
      · exact ihl (mem_headsList.mpr ⟨t, (List.of_mem_zip (Dict.get?_some_mem _ x t hx)).2, ht⟩)
    · rw [if_neg hc, heads, List.mem_cons, not_or]
      refine ⟨fun hg => hc ⟨hg.symm, ?_⟩, ihl⟩
      rw [defineFnList_eq_map, List.length_map]
      exact h.1.resolve_left fun h1 => h1 hg.symm

theorem defineFnList_no_calls (I : FnImpl) (hb : I.name ∉ heads I.body) : ∀ (es : List Expr), arityOKList I es = true →
    I.name ∉ headsList (defineFnList I es) := by
  intro es h hin
  rw [arityOKList_eq_all, List.all_eq_true] at h
  rw [defineFnList_eq_map] at hin
  obtain ⟨a, ha, hin⟩ := mem_headsList_map.mp hin
  exact defineFn_no_calls I hb a (h a ha) hin

end Bartiq
