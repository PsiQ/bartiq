/-
  `sorted_children_order` returns a permutation of the children's names that respects the child-to-child wires, fails on every
  cycle among them (and only when the sorter fails: `sortedChildrenOrder_cases`), and re-ordering the children by it loses
  none: consequences of the correctness of the model of graphlib's `static_order` (GraphLemmas.lean).
-/
import BartiqModel.Compile
import BartiqProofs.GraphLemmas
import BartiqProofs.SortLemmas
namespace Bartiq

/-- child-to-child connections only mention children of this routine -/
def InnerEndpointsIn (names : List String) (conns : List (Endpoint × Endpoint)) : Prop :=
  ∀ c ∈ conns, ∀ s t, c.1.routine = some s → c.2.routine = some t → s ∈ names ∧ t ∈ names

def innerConns (conns : List (Endpoint × Endpoint)) : List (String × String) :=
  conns.filterMap fun c =>
    match c.1.routine, c.2.routine with
    | some s, some t => some (s, t)
    | _, _ => none

/-- predecessors of a child, as `sorted_children_order` collects them -/
def childPreds (conns : List (Endpoint × Endpoint)) (n : String) : List String :=
  (((innerConns conns).filter (·.2 = n)).map (·.1)).eraseDups

/-- the graph handed to the topological sorter -/
def childGraph (names : List String) (conns : List (Endpoint × Endpoint)) : Graph.G :=
  names.map fun n => (n, sortBy (· < ·) (childPreds conns n))

/-- the "already in data-flow order?" scan of `sorted_children_order` -/
def orderScan (conns : List (Endpoint × Endpoint)) (order : List String) (st : Bool × List String) : Bool × List String :=
  order.foldl (fun (st : Bool × List String) c =>
    if !st.1 then st
    else if (childPreds conns c).any (fun p => !st.2.contains p) then (false, st.2)
    else (true, c :: st.2)) st

theorem sortedChildrenOrder_unfold (names ord : List String) (conns : List (Endpoint × Endpoint)) :
    sortedChildrenOrder names ord conns =
      if (orderScan conns ord (true, [])).1 then pure ord
      else match Graph.staticOrder (childGraph names conns) with
        | some o => pure o
        | none => throw (.compilation "Connections between children form a cycle") := by
  rfl

theorem mem_innerConns {conns : List (Endpoint × Endpoint)} {s t : String} :
    (s, t) ∈ innerConns conns ↔ ∃ c ∈ conns, c.1.routine = some s ∧ c.2.routine = some t := by
  simp only [innerConns, List.mem_filterMap]
  refine exists_congr fun c => and_congr_right fun _ => ?_
  cases c.1.routine <;> cases c.2.routine <;> simp

theorem mem_childPreds {conns : List (Endpoint × Endpoint)} {p n : String} :
    p ∈ childPreds conns n ↔ (p, n) ∈ innerConns conns := by
  simp [childPreds]

theorem mem_edges_childGraph {names : List String} {conns : List (Endpoint × Endpoint)} {p n : String} :
    (p, n) ∈ Graph.edges (childGraph names conns) ↔ n ∈ names ∧ (p, n) ∈ innerConns conns := by
  simp only [Graph.mem_edges, childGraph, List.mem_map, Prod.mk.injEq, ← mem_childPreds]
  constructor
  · rintro ⟨_, ⟨_, hn, rfl, rfl⟩, hp⟩
    exact ⟨hn, (sortBy_perm _).mem_iff.mp hp⟩
  · rintro ⟨hn, hp⟩
    exact ⟨_, ⟨n, hn, rfl, rfl⟩, (sortBy_perm _).mem_iff.mpr hp⟩

theorem mem_nodes_childGraph {names : List String} {conns : List (Endpoint × Endpoint)} (hin : InnerEndpointsIn names conns)
    {x : String} : x ∈ Graph.nodes (childGraph names conns) ↔ x ∈ names := by
  rw [Graph.mem_nodes]
  constructor
  · rintro (⟨_, h⟩ | ⟨n, he⟩)
    · obtain ⟨n, hn, e⟩ := List.mem_map.mp h
      exact (Prod.mk.inj e).1 ▸ hn
    · obtain ⟨c, hc, h1, h2⟩ := mem_innerConns.mp (mem_edges_childGraph.mp he).2
      exact (hin c hc x n h1 h2).1
  · exact fun hx => Or.inl ⟨_, List.mem_map.mpr ⟨x, hx, rfl⟩⟩

theorem orderScan_false (conns : List (Endpoint × Endpoint)) : ∀ (order : List String) (vis : List String),
    (orderScan conns order (false, vis)).1 = false
  | [], _ => rfl
  | _ :: rest, vis => orderScan_false conns rest vis

theorem orderScan_cons (conns : List (Endpoint × Endpoint)) (c : String) (rest vis : List String) :
    orderScan conns (c :: rest) (true, vis) =
      orderScan conns rest (if (childPreds conns c).any (fun p => !vis.contains p) then (false, vis) else (true, c :: vis)) := by
  simp only [orderScan, List.foldl_cons, Bool.not_true, Bool.false_eq_true, if_false]

theorem orderScan_respects (names : List String) (conns : List (Endpoint × Endpoint)) :
    ∀ (order vis : List String), (orderScan conns order (true, vis)).1 = true →
      Graph.respects (childGraph names conns) vis.reverse order = true
  | [], _, _ => rfl
  | c :: rest, vis, h => by
    rw [orderScan_cons] at h
    split at h
    · rw [orderScan_false] at h
      cases h
    · next hany =>
      rw [Graph.respects_cons, ← List.reverse_cons]
      refine ⟨fun p he => by_contra fun hp => hany ?_, orderScan_respects names conns rest (c :: vis) h⟩
      exact List.any_eq_true.mpr ⟨p, mem_childPreds.mpr (mem_edges_childGraph.mp he).2, by simpa using hp⟩

theorem sortedChildrenOrder_cases (names ord : List String) (conns : List (Endpoint × Endpoint)) :
    match sortedChildrenOrder names ord conns with
    | .ok o => Graph.respects (childGraph names conns) [] o = true ∧
        (o = ord ∨ Graph.staticOrder (childGraph names conns) = some o)
    | .error _ => Graph.staticOrder (childGraph names conns) = none := by
  rw [sortedChildrenOrder_unfold]
  by_cases hscan : (orderScan conns ord (true, [])).1 = true
  · rw [if_pos hscan]
    exact ⟨orderScan_respects names conns ord [] hscan, Or.inl rfl⟩
  · rw [if_neg hscan]
    cases hso : Graph.staticOrder (childGraph names conns) with
    | some o => exact ⟨(Graph.staticOrder_spec _ o hso).2.2, Or.inr rfl⟩
    | none => rfl

theorem sortedChildrenOrder_perm (names ord : List String) (conns : List (Endpoint × Endpoint)) (o : List String)
    (hn : names.Nodup) (ho : ord.Perm names) (hin : InnerEndpointsIn names conns)
    (h : sortedChildrenOrder names ord conns = .ok o) : o.Perm names := by
  have := sortedChildrenOrder_cases names ord conns
  rw [h] at this
  rcases this.2 with rfl | hso
  · exact ho
  · exact (Graph.staticOrder_perm _ o hso).trans
      ((List.perm_ext_iff_of_nodup (Graph.nodes_nodup _) hn).mpr fun _ => mem_nodes_childGraph hin)

theorem sortedChildrenOrder_cycle (names ord : List String) (conns : List (Endpoint × Endpoint)) (a : String)
    (hnd : ord.Nodup) (hall : ∀ n ∈ names, n ∈ ord) (hc : Graph.Before (childGraph names conns) a a) :
    ∃ m, sortedChildrenOrder names ord conns = .error (.compilation m) := by
  rw [sortedChildrenOrder_unfold]
  split
  · next hscan =>
    have hr := orderScan_respects names conns ord [] hscan
    exact absurd (Graph.pos_of_respects _ ord hnd hr (fun _ _ he => hall _ (mem_edges_childGraph.mp he).1) a a hc) (Nat.lt_irrefl _)
  · rw [Graph.staticOrder_none_of_cycle _ a hc]
    exact ⟨_, rfl⟩

theorem find?_self_of_nodup {α : Type} (name : α → String) : ∀ (xs : List α), (xs.map name).Nodup →
    ∀ x ∈ xs, xs.find? (fun y => name y = name x) = some x
  | [], _, _, hx => by cases hx
  | a :: as, h, x, hx => by
    simp only [List.map_cons, List.nodup_cons] at h
    rcases List.mem_cons.mp hx with rfl | hm
    · simp
    · have hne : ¬ name a = name x := fun e => h.1 (e ▸ List.mem_map_of_mem hm)
      simp only [List.find?_cons, hne, decide_false]
      exact find?_self_of_nodup name as h.2 x hm

theorem reorder_own_names {α : Type} (name : α → String) (xs : List α) (h : (xs.map name).Nodup) :
    reorder name xs (xs.map name) = xs := by
  unfold reorder
  rw [List.filterMap_map]
  exact (List.filterMap_congr (find?_self_of_nodup name xs h)).trans List.filterMap_some

theorem reorder_names {α : Type} (name : α → String) (xs : List α) (o : List String) (h : ∀ n ∈ o, n ∈ xs.map name) :
    (reorder name xs o).map name = o := by
  unfold reorder
  rw [List.map_filterMap]
  refine (List.filterMap_congr fun n hn => ?_).trans List.filterMap_some
  obtain ⟨x, hx, hxn⟩ := List.mem_map.mp (h n hn)
  cases hf : xs.find? (fun y => name y = n) with
  | none => exact absurd hxn (by simpa using List.find?_eq_none.mp hf x hx)
  | some y => simpa using List.find?_some hf

theorem reorder_perm {α : Type} (name : α → String) (xs : List α) (o : List String) (h : (xs.map name).Nodup)
    (ho : o.Perm (xs.map name)) : (reorder name xs o).Perm xs :=
  (ho.filterMap _).trans (.of_eq (reorder_own_names name xs h))

end Bartiq
