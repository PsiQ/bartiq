/-
  Python `dict`s as association lists (`Dict`, BartiqModel/Basic.lean): what a lookup sees after `set`, `merge`, `erase` and
  `mapVal`; dictionaries with distinct keys; dictionaries up to the order of their entries (`DEq`).  Core Lean only.
-/
import BartiqModel.Basic
namespace Bartiq
namespace Dict
variable {α β : Type}

@[simp] theorem get?_nil (k : String) : get? ([] : Dict α) k = none := rfl

theorem get?_cons (x : String × α) (t : Dict α) (k : String) :
    get? (x :: t) k = if x.1 = k then some x.2 else get? t k := rfl

theorem get?_set (d : Dict α) (k : String) (v : α) (k' : String) :
    get? (set d k v) k' = if k = k' then some v else get? d k' := by
  induction d with
  | nil => simp [set, get?_cons]
  | cons x xs ih =>
    by_cases h : x.1 = k
    · subst h; by_cases h2 : x.1 = k' <;> simp [set, get?_cons, h2]
    · by_cases h2 : x.1 = k'
      · subst h2; simp [set, get?_cons, h, Ne.symm h]
      · simp [set, get?_cons, h, h2, ih]

theorem get?_append (a b : Dict α) (k : String) : get? (a ++ b) k = (get? a k).or (get? b k) := by
  induction a with
  | nil => rfl
  | cons x xs ih => by_cases h : x.1 = k <;> simp [get?_cons, h, ih]

/-- the value `{**a, **b}` gives to a key: the LAST binding in `b` wins, otherwise `a`'s -/
theorem get?_merge (a b : Dict α) (k : String) :
    get? (merge a b) k = match get? b.reverse k with | some v => some v | none => get? a k := by
  induction b generalizing a with
  | nil => rfl
  | cons x xs ih =>
    rw [show merge a (x :: xs) = merge (a.set x.1 x.2) xs from rfl, ih, List.reverse_cons, get?_append, get?_set, get?_cons]
    cases get? xs.reverse k with
    | some v => rfl
    | none => by_cases hx : x.1 = k <;> simp [hx]

theorem erase_cons (kv : String × α) (t : Dict α) (k : String) :
    erase (kv :: t) k = if kv.1 = k then erase t k else kv :: erase t k := by
  by_cases h : kv.1 = k <;> simp [erase, h]

theorem get?_erase (d : Dict α) (k x : String) : get? (erase d k) x = if x = k then none else get? d x := by
  induction d with
  | nil => simp [erase]
  | cons kv t ih =>
    rw [erase_cons, get?_cons]
    by_cases hk : kv.1 = k
    · rw [if_pos hk, ih]
      by_cases hx : x = k
      · rw [if_pos hx, if_pos hx]
      · rw [if_neg fun e : kv.1 = x => hx (e.symm.trans hk)]
    · rw [if_neg hk, get?_cons, ih]
      by_cases hx : kv.1 = x
      · rw [if_pos hx, if_pos hx, if_neg fun e : x = k => hk (hx.trans e)]
      · rw [if_neg hx, if_neg hx]

theorem get?_some_mem (d : Dict α) (k : String) (v : α) (h : d.get? k = some v) : (k, v) ∈ d := by
  induction d with
  | nil => cases h
  | cons y ys ih =>
    rw [get?_cons] at h
    split at h
    · rename_i hy; cases h; exact hy ▸ List.mem_cons_self
    · exact List.mem_cons_of_mem _ (ih h)

theorem get?_cons_eq_none {x : String × α} {t : Dict α} {k : String} : get? (x :: t) k = none ↔ x.1 ≠ k ∧ get? t k = none := by
  rw [get?_cons]
  split <;> simp [*]

theorem get?_eq_none_iff {d : Dict α} {k : String} : d.get? k = none ↔ k ∉ d.keys := by
  induction d with
  | nil => simp [keys]
  | cons x xs ih =>
    rw [get?_cons_eq_none, ih, show keys (x :: xs) = x.1 :: keys xs from rfl, List.mem_cons, not_or, ne_comm]

theorem contains_iff_mem_keys {d : Dict α} {k : String} : d.contains k = true ↔ k ∈ d.keys := by
  rw [contains, Option.isSome_iff_ne_none, ne_eq, get?_eq_none_iff, Decidable.not_not]

theorem contains_of_mem (d : Dict α) (k : String) (v : α) (h : (k, v) ∈ d) : d.contains k = true :=
  contains_iff_mem_keys.mpr (List.mem_map_of_mem (f := (·.1)) h)

theorem get?_map_pair (f : String → α) : ∀ (ns : List String) (s : String), s ∈ ns →
    get? (ns.map fun n => (n, f n)) s = some (f s)
  | n :: ns, s, h => by
    rw [List.map_cons, get?_cons]
    split
    · next e => rw [← e]
    · next e => exact get?_map_pair f ns s ((List.mem_cons.mp h).resolve_left fun e' => e e'.symm)

theorem keys_set (d : Dict α) (k : String) (v : α) : (d.set k v).keys = if k ∈ d.keys then d.keys else d.keys ++ [k] := by
  induction d with
  | nil => rfl
  | cons x xs ih =>
    by_cases h : x.1 = k
    · simp [set, keys, h]
    · simp only [keys, List.map_cons, List.mem_cons, Ne.symm h, false_or] at ih ⊢
      simp only [set, h, if_false, List.map_cons, ih]
      split <;> rename_i hm <;> simp [hm]

theorem set_fresh : ∀ (d : Dict α) (k : String) (v : α), k ∉ d.keys → d.set k v = d ++ [(k, v)]
  | [], _, _, _ => rfl
  | (k', v') :: t, k, v, h => by
    simp [Dict.set, (List.ne_of_not_mem_cons h).symm, set_fresh t k v (List.not_mem_of_not_mem_cons h)]

theorem mem_keys_set {d : Dict α} {k x : String} {v : α} : x ∈ (d.set k v).keys ↔ x ∈ d.keys ∨ x = k := by
  rw [keys_set]
  split
  · exact ⟨.inl, fun h => h.elim id fun e => e ▸ ‹_›⟩
  · simp

theorem mem_keys_merge {a b : Dict α} {x : String} : x ∈ (merge a b).keys ↔ x ∈ a.keys ∨ x ∈ b.keys := by
  unfold merge
  induction b generalizing a with
  | nil => exact (or_iff_left List.not_mem_nil).symm
  | cons kv b ih =>
    rw [List.foldl_cons, ih, mem_keys_set, or_assoc]
    exact or_congr_right List.mem_cons.symm

/-- also spelled `d.keys.Nodup` and `(d.map (·.1)).Nodup` in statements: the three unfold to the same -/
def NodupKeys (d : Dict α) : Prop := (d.map (·.1)).Nodup

theorem nodupKeys_nil : NodupKeys ([] : Dict α) := List.nodup_nil

theorem nodupKeys_set (d : Dict α) (k : String) (v : α) (h : NodupKeys d) : NodupKeys (d.set k v) := by
  show (d.set k v).keys.Nodup
  rw [keys_set]
  split
  · exact h
  · rename_i hk
    exact List.nodup_append.mpr ⟨h, by simp, fun a ha b hb e => hk (List.mem_singleton.mp hb ▸ e ▸ ha)⟩

theorem nodupKeys_merge {a b : Dict α} (ha : NodupKeys a) : NodupKeys (merge a b) := by
  unfold merge
  induction b generalizing a with
  | nil => exact ha
  | cons kv b ih => exact ih (nodupKeys_set a kv.1 kv.2 ha)

theorem nodupKeys_erase (d : Dict α) (k : String) (h : NodupKeys d) : NodupKeys (d.erase k) :=
  h.sublist (List.filter_sublist.map _)

theorem get?_of_mem_nodup (d : Dict α) (k : String) (v : α) (hn : NodupKeys d) (h : (k, v) ∈ d) : d.get? k = some v := by
  induction d with
  | nil => cases h
  | cons y ys ih =>
    have hn' := List.nodup_cons.mp hn
    rw [get?_cons]
    rcases List.mem_cons.mp h with rfl | h
    · simp
    · rw [if_neg fun e : y.1 = k => hn'.1 (List.mem_map.mpr ⟨(k, v), h, e.symm⟩)]
      exact ih hn'.2 h

theorem mem_iff_get? {d : Dict α} (hn : NodupKeys d) {k : String} {v : α} : (k, v) ∈ d ↔ d.get? k = some v :=
  ⟨get?_of_mem_nodup d k v hn, get?_some_mem d k v⟩

@[simp] theorem mapVal_nil (f : α → β) : mapVal f ([] : Dict α) = [] := rfl

theorem mapVal_cons (f : α → β) (x : String × α) (t : Dict α) : mapVal f (x :: t) = (x.1, f x.2) :: mapVal f t := rfl

theorem get?_mapVal (f : α → β) (d : Dict α) (k : String) : get? (mapVal f d) k = (get? d k).map f := by
  induction d with
  | nil => rfl
  | cons x xs ih =>
    rw [mapVal_cons, get?_cons, get?_cons, ih]
    split <;> rfl

theorem mapVal_set (f : α → β) (d : Dict α) (k : String) (v : α) : mapVal f (set d k v) = set (mapVal f d) k (f v) := by
  induction d with
  | nil => rfl
  | cons x xs ih => by_cases h : x.1 = k <;> simp [set, mapVal_cons, h, ih]

theorem mapVal_merge (f : α → β) (a b : Dict α) : mapVal f (merge a b) = merge (mapVal f a) (mapVal f b) := by
  unfold merge
  induction b generalizing a with
  | nil => rfl
  | cons x xs ih => rw [List.foldl_cons, ih, mapVal_set]; rfl

theorem mapVal_ofList (f : α → β) (l : List (String × α)) : mapVal f (ofList l) = ofList (mapVal f l) :=
  mapVal_merge f [] l

theorem mapVal_mapVal {γ : Type} (f : α → β) (g : β → γ) (d : Dict α) : mapVal g (mapVal f d) = mapVal (fun x => g (f x)) d := by
  simp [mapVal, List.map_map, Function.comp_def]

theorem get?_perm {d d' : Dict α} (hp : d.Perm d') (hn : (d.map (·.1)).Nodup) (k : String) : get? d k = get? d' k :=
  Option.ext fun v => by rw [← mem_iff_get? hn, ← mem_iff_get? ((hp.map _).nodup_iff.mp hn), hp.mem_iff]

/-- the same entries in some order, keys distinct: two Python dicts filled in different insertion orders -/
structure DEq (d d' : Dict α) : Prop where
  perm : d.Perm d'
  nodup : NodupKeys d

theorem DEq.refl {d : Dict α} (h : NodupKeys d) : DEq d d := ⟨List.Perm.refl _, h⟩

theorem DEq.nodup' {d d' : Dict α} (h : DEq d d') : NodupKeys d' := ((h.perm.map _).nodup_iff).mp h.nodup

theorem DEq.symm {d d' : Dict α} (h : DEq d d') : DEq d' d := ⟨h.perm.symm, h.nodup'⟩

theorem DEq.trans {a b c : Dict α} (h1 : DEq a b) (h2 : DEq b c) : DEq a c := ⟨h1.perm.trans h2.perm, h1.nodup⟩

theorem DEq.get? {d d' : Dict α} (h : DEq d d') (k : String) : d.get? k = d'.get? k := get?_perm h.perm h.nodup k

theorem DEq.of_get? {d d' : Dict α} (hn : NodupKeys d) (hn' : NodupKeys d') (h : ∀ k, d.get? k = d'.get? k) : DEq d d' := by
  have nodup : ∀ {d : Dict α}, NodupKeys d → d.Nodup := fun hn => List.Pairwise.of_map _ (fun _ _ hab e => hab (e ▸ rfl)) hn
  refine ⟨(List.perm_ext_iff_of_nodup (nodup hn) (nodup hn')).mpr fun ⟨k, v⟩ => ?_, hn⟩
  rw [mem_iff_get? hn, mem_iff_get? hn', h]

theorem DEq.set {d d' : Dict α} (h : DEq d d') (k : String) (v : α) : DEq (d.set k v) (d'.set k v) :=
  .of_get? (nodupKeys_set d k v h.nodup) (nodupKeys_set d' k v h.nodup') fun x => by rw [get?_set, get?_set, h.get?]

theorem set_comm (d : Dict α) (k1 k2 : String) (v1 v2 : α) (hk : k1 ≠ k2) (hn : NodupKeys d) :
    DEq ((d.set k1 v1).set k2 v2) ((d.set k2 v2).set k1 v1) := by
  refine .of_get? (nodupKeys_set _ _ _ (nodupKeys_set _ _ _ hn)) (nodupKeys_set _ _ _ (nodupKeys_set _ _ _ hn)) fun x => ?_
  rw [get?_set, get?_set, get?_set, get?_set]
  by_cases h1 : k1 = x
  · simp only [if_pos h1, if_neg fun h2 : k2 = x => hk (h1.trans h2.symm)]
  · simp only [if_neg h1]

theorem get?_merge_of_nodup (a : Dict α) {b : Dict α} (hb : NodupKeys b) (k : String) :
    get? (merge a b) k = (get? b k).or (get? a k) := by
  rw [get?_merge, get?_perm (List.reverse_perm b) ((List.reverse_perm b).map _ |>.nodup_iff.mpr hb)]
  cases get? b k <;> rfl

theorem DEq.merge {a a' b b' : Dict α} (ha : DEq a a') (hb : DEq b b') : DEq (Dict.merge a b) (Dict.merge a' b') :=
  .of_get? (nodupKeys_merge ha.nodup) (nodupKeys_merge ha.nodup') fun k => by
    rw [get?_merge_of_nodup a hb.nodup, get?_merge_of_nodup a' hb.nodup', ha.get?, hb.get?]

end Dict
end Bartiq
