/-
  Expressions, substitution and evaluation (core Lean only).  The functions on argument lists that the model defines next to the
  functions on expressions (`substFList`, `fvList`, `bindersList`, `headsList`) are maps or `flatMap`s over the list, and `evalList` evaluates
  the elements in turn; with that said once, every fact is one induction over `Expr.ind`.
-/
import BartiqModel.Basic
import BartiqProofs.DictLemmas
namespace Bartiq
namespace Expr
variable {V : Type}

theorem substFList_eq_map (σ : Subst) : ∀ es, substFList σ es = es.map (substF σ)
  | [] => rfl
  | a :: as => by rw [substFList, substFList_eq_map σ as]; rfl

theorem fvList_eq_flatMap : ∀ es, fvList es = es.flatMap fv
  | [] => rfl
  | a :: as => by rw [fvList, fvList_eq_flatMap as]; rfl

theorem bindersList_eq_flatMap : ∀ es, bindersList es = es.flatMap binders
  | [] => rfl
  | a :: as => by rw [bindersList, bindersList_eq_flatMap as]; rfl

theorem headsList_eq_flatMap : ∀ es, headsList es = es.flatMap heads
  | [] => rfl
  | a :: as => by rw [headsList, headsList_eq_flatMap as]; rfl

theorem mem_fvList {x : String} {es : List Expr} : x ∈ fvList es ↔ ∃ a ∈ es, x ∈ fv a := by
  rw [fvList_eq_flatMap, List.mem_flatMap]

theorem mem_bindersList {x : String} {es : List Expr} : x ∈ bindersList es ↔ ∃ a ∈ es, x ∈ binders a := by
  rw [bindersList_eq_flatMap, List.mem_flatMap]

theorem mem_headsList {x : String} {es : List Expr} : x ∈ headsList es ↔ ∃ a ∈ es, x ∈ heads a := by
  rw [headsList_eq_flatMap, List.mem_flatMap]

theorem mem_fvList_map {x : String} {f : Expr → Expr} {es : List Expr} : x ∈ fvList (es.map f) ↔ ∃ a ∈ es, x ∈ fv (f a) := by
  rw [fvList_eq_flatMap, List.flatMap_map, List.mem_flatMap]

theorem mem_headsList_map {x : String} {f : Expr → Expr} {es : List Expr} : x ∈ headsList (es.map f) ↔ ∃ a ∈ es, x ∈ heads (f a) := by
  rw [headsList_eq_flatMap, List.flatMap_map, List.mem_flatMap]

theorem evalList_cons_eq_some {A : Alg V} {ρ : Env V} {e : Expr} {es : List Expr} {vs : List V} :
    evalList A ρ (e :: es) = some vs ↔ ∃ v, eval A ρ e = some v ∧ ∃ vs', evalList A ρ es = some vs' ∧ v :: vs' = vs := by
  simp only [evalList, Option.bind_eq_some_iff, Option.some.injEq]

theorem evalList_cons_eq_none {A : Alg V} {ρ : Env V} {e : Expr} {es : List Expr} :
    evalList A ρ (e :: es) = none ↔ eval A ρ e = none ∨ evalList A ρ es = none := by
  rw [evalList]
  cases eval A ρ e <;> cases evalList A ρ es <;> simp

theorem evalList_length (A : Alg V) (ρ : Env V) : ∀ (es : List Expr) (vs : List V), evalList A ρ es = some vs → vs.length = es.length
  | [], vs, h => by cases h; rfl
  | e :: es, vs, h => by
    obtain ⟨v, _, vs', hvs, rfl⟩ := evalList_cons_eq_some.mp h
    rw [List.length_cons, List.length_cons, evalList_length A ρ es vs' hvs]

theorem evalList_eq_none_of_mem (A : Alg V) (ρ : Env V) {a : Expr} : ∀ {es : List Expr}, a ∈ es → eval A ρ a = none →
    evalList A ρ es = none
  | b :: es, ha, h => by
    rw [evalList_cons_eq_none]
    rcases List.mem_cons.mp ha with rfl | ha
    · exact .inl h
    · exact .inr (evalList_eq_none_of_mem A ρ ha h)

theorem evalList_map_congr {A A' : Alg V} {ρ ρ' : Env V} (f : Expr → Expr) : ∀ (es : List Expr),
    (∀ a ∈ es, eval A ρ (f a) = eval A' ρ' a) → evalList A ρ (es.map f) = evalList A' ρ' es
  | [], _ => rfl
  | a :: as, h => by
    rw [List.map_cons, evalList, evalList, h a List.mem_cons_self,
      evalList_map_congr f as fun b hb => h b (List.mem_cons_of_mem _ hb)]

theorem evalList_congr_mem {A A' : Alg V} {ρ ρ' : Env V} (es : List Expr) (h : ∀ a ∈ es, eval A ρ a = eval A' ρ' a) :
    evalList A ρ es = evalList A' ρ' es := by
  simpa using evalList_map_congr id es h

theorem Subst.erase_eq_some {σ : Subst} {i x : String} {t : Expr} : σ.erase i x = some t ↔ x ≠ i ∧ σ x = some t := by
  unfold Subst.erase; split <;> simp [*]

theorem Subst.erase_eq_none {σ : Subst} {i x : String} : σ.erase i x = none ↔ x = i ∨ σ x = none := by
  unfold Subst.erase; split <;> simp [*]

theorem update_apply (ρ : Env V) (i : String) (v : Option V) (x : String) :
    (ρ.update i v) x = if x = i then v else ρ x := rfl

theorem mem_fv_big {x : String} {k : BigKind} {body : Expr} {i : String} {lo hi : Expr} :
    x ∈ fv (big k body i lo hi) ↔ (x ∈ fv body ∧ x ≠ i) ∨ x ∈ fv lo ∨ x ∈ fv hi := by
  simp [fv]

theorem substF_congr {σ τ : Subst} (h : ∀ x, σ x = τ x) (e : Expr) : substF σ e = substF τ e := by
  rw [funext h]

theorem subst_congr_lookup {σ τ : Dict Expr} (h : ∀ x, σ.get? x = τ.get? x) (e : Expr) : subst σ e = subst τ e :=
  substF_congr h e

theorem subst_erase_congr {σ τ : Dict Expr} {n : String} (h : ∀ x, x ≠ n → σ.get? x = τ.get? x) (e : Expr) :
    subst (σ.erase n) e = subst (τ.erase n) e :=
  subst_congr_lookup (fun x => by
    rw [Dict.get?_erase, Dict.get?_erase]
    split
    · rfl
    · exact h x ‹_›) e

theorem substF_of_disjoint (e : Expr) (σ : Subst) (h : ∀ x ∈ fv e, σ x = none) : substF σ e = e := by
  induction e using Expr.ind generalizing σ with
  | hnum q => rfl
  | hsym s => simp [substF, h s (by simp [fv])]
  | hneg a ih => rw [substF, ih σ h]
  | hbin op a b iha ihb =>
    rw [substF, iha σ fun x hx => h x (List.mem_append_left _ hx), ihb σ fun x hx => h x (List.mem_append_right _ hx)]
  | happ f args ih =>
    rw [substF, substFList_eq_map, List.map_congr_left fun a ha => ih a ha σ fun x hx => h x (mem_fvList.mpr ⟨a, ha, hx⟩),
      List.map_id']
  | hbig k body i lo hi ihb ihl ihh =>
    have hb : ∀ x ∈ fv body, σ.erase i x = none := fun x hx =>
      Subst.erase_eq_none.mpr ((Decidable.em (x = i)).imp_right fun hxi => h x (mem_fv_big.mpr (.inl ⟨hx, hxi⟩)))
    rw [substF, ihb _ hb, ihl σ fun x hx => h x (mem_fv_big.mpr (.inr (.inl hx))),
      ihh σ fun x hx => h x (mem_fv_big.mpr (.inr (.inr hx)))]

theorem substFList_of_disjoint : ∀ (es : List Expr) (σ : Subst), (∀ x ∈ fvList es, σ x = none) → substFList σ es = es := by
  intro es σ h
  rw [substFList_eq_map, List.map_congr_left fun a ha => substF_of_disjoint a σ fun x hx => h x (mem_fvList.mpr ⟨a, ha, hx⟩),
    List.map_id']

theorem substF_closed (e : Expr) (σ : Subst) (h : fv e = []) : substF σ e = e :=
  substF_of_disjoint e σ (by simp [h])

theorem substFList_none : ∀ (es : List Expr), substFList (fun _ => none) es = es :=
  fun es => substFList_of_disjoint es _ fun _ _ => rfl

theorem subst_nil (e : Expr) : subst [] e = e := substF_of_disjoint e _ fun _ _ => rfl

theorem eval_congr (A : Alg V) (e : Expr) (ρ ρ' : Env V) (h : ∀ x ∈ fv e, ρ x = ρ' x) : eval A ρ e = eval A ρ' e := by
  induction e using Expr.ind generalizing ρ ρ' with
  | hnum q => rfl
  | hsym s => exact h s (by simp [fv])
  | hneg a ih => rw [eval, eval, ih ρ ρ' h]
  | hbin op a b iha ihb =>
    rw [eval, eval, iha ρ ρ' fun x hx => h x (List.mem_append_left _ hx), ihb ρ ρ' fun x hx => h x (List.mem_append_right _ hx)]
  | happ f args ih =>
    rw [eval, eval, evalList_congr_mem args fun a ha => ih a ha ρ ρ' fun x hx => h x (mem_fvList.mpr ⟨a, ha, hx⟩)]
  | hbig k body i lo hi ihb ihl ihh =>
    have hb : ∀ j : Int, eval A (ρ.update i (A.lit j)) body = eval A (ρ'.update i (A.lit j)) body := fun j =>
      ihb _ _ fun x hx => by
        rw [update_apply, update_apply]
        split
        · rfl
        · next hxi => exact h x (mem_fv_big.mpr (.inl ⟨hx, hxi⟩))
    simp only [eval, ihl ρ ρ' fun x hx => h x (mem_fv_big.mpr (.inr (.inl hx))),
      ihh ρ ρ' fun x hx => h x (mem_fv_big.mpr (.inr (.inr hx))), hb]

theorem evalList_congr (A : Alg V) : ∀ (es : List Expr) (ρ ρ' : Env V), (∀ x ∈ fvList es, ρ x = ρ' x) → evalList A ρ es = evalList A ρ' es :=
  fun es ρ ρ' h => evalList_congr_mem es fun a ha => eval_congr A a ρ ρ' fun x hx => h x (mem_fvList.mpr ⟨a, ha, hx⟩)

/-- strictness in a free name needs `hA`: in general the sum over an empty range is 0 whatever the body -/
theorem eval_strict (A : Alg V) (e : Expr) (ρ : Env V) (x : String)
    (hA : binders e = [] ∨ ∀ k l h, A.big k l h (fun _ => none) = none) (hx : x ∈ fv e) (h0 : ρ x = none) :
    eval A ρ e = none := by
  induction e using Expr.ind generalizing ρ with
  | hnum q => cases hx
  | hsym s => cases List.mem_singleton.mp hx; exact h0
  | hneg a ih => rw [eval, ih ρ hA hx h0]; rfl
  | hbin op a b iha ihb =>
    rw [eval]
    rcases List.mem_append.mp hx with hx | hx
    · rw [iha ρ (hA.imp_left fun hb => (List.append_eq_nil_iff.mp hb).1) hx h0]; rfl
    · rw [ihb ρ (hA.imp_left fun hb => (List.append_eq_nil_iff.mp hb).2) hx h0]; cases eval A ρ a <;> rfl
  | happ f args ih =>
    obtain ⟨a, ha, hxa⟩ := mem_fvList.mp hx
    have hAa := hA.imp_left fun hb : bindersList args = [] => List.flatMap_eq_nil_iff.mp (bindersList_eq_flatMap args ▸ hb) a ha
    rw [eval, evalList_eq_none_of_mem A ρ ha (ih a ha ρ hAa hxa h0)]; rfl
  | hbig k body i lo hi ihb ihl ihh =>
    have hA := hA.resolve_left (List.cons_ne_nil _ _)
    rw [eval]
    rcases mem_fv_big.mp hx with ⟨hxb, hxi⟩ | hx | hx
    · have hbody : ∀ j : Int, eval A (ρ.update i (A.lit j)) body = none := fun j =>
        ihb _ (.inr hA) hxb (by rw [update_apply, if_neg hxi]; exact h0)
      simp only [hbody, hA, Option.bind_fun_none]
    · rw [ihl ρ (.inr hA) hx h0]; rfl
    · rw [ihh ρ (.inr hA) hx h0]; cases eval A ρ lo <;> rfl

/-- no value of σ mentions an iterator bound somewhere in `e` (what `CustomSequence.substitute_symbols`
    guards, and what sympy's `Sum.subs` assumes) -/
def NoCapture (σ : Subst) (e : Expr) : Prop :=
  ∀ x t, σ x = some t → ∀ i ∈ binders e, i ∉ fv t

theorem NoCapture.mono {σ : Subst} {e e' : Expr} (h : NoCapture σ e) (hs : ∀ i, i ∈ binders e' → i ∈ binders e) :
    NoCapture σ e' := fun x t hx i hi => h x t hx i (hs i hi)

theorem NoCapture.erase {σ : Subst} {e : Expr} (h : NoCapture σ e) (j : String) : NoCapture (σ.erase j) e :=
  fun x t hx => h x t (Subst.erase_eq_some.mp hx).2

theorem under_update_erase (A : Alg V) (ρ : Env V) (σ : Subst) (i : String) (v : Option V) (h : ∀ x t, σ x = some t → i ∉ fv t) :
    under A (ρ.update i v) (σ.erase i) = (under A ρ σ).update i v := by
  funext x
  rw [update_apply, under]
  split
  · next t hx =>
    obtain ⟨hxi, hx⟩ := Subst.erase_eq_some.mp hx
    rw [if_neg hxi, under, hx]
    exact eval_congr A t _ _ fun y hy => if_neg fun hyi : y = i => h x t hx (hyi ▸ hy)
  · next hx =>
    rcases Subst.erase_eq_none.mp hx with hxi | hx
    · rw [if_pos hxi, update_apply, if_pos hxi]
    · rw [under, hx, update_apply]

theorem eval_substF (A : Alg V) (e : Expr) (σ : Subst) (ρ : Env V) (h : NoCapture σ e) :
    eval A ρ (substF σ e) = eval A (under A ρ σ) e := by
  induction e using Expr.ind generalizing σ ρ with
  | hnum q => rfl
  | hsym s => simp only [substF, eval, under]; cases σ s <;> rfl
  | hneg a ih => rw [substF, eval, eval, ih σ ρ h]
  | hbin op a b iha ihb =>
    rw [substF, eval, eval, iha σ ρ (h.mono fun i hi => List.mem_append_left _ hi),
      ihb σ ρ (h.mono fun i hi => List.mem_append_right _ hi)]
  | happ f args ih =>
    rw [substF, eval, eval, substFList_eq_map,
      evalList_map_congr _ args fun a ha => ih a ha σ ρ (h.mono fun i hi => mem_bindersList.mpr ⟨a, ha, hi⟩)]
  | hbig k body i lo hi ihb ihl ihh =>
    have hb : ∀ j : Int, eval A (ρ.update i (A.lit j)) (substF (σ.erase i) body) =
        eval A ((under A ρ σ).update i (A.lit j)) body := fun j => by
      rw [ihb _ _ ((h.mono fun j hj => by simp [binders, hj]).erase i),
        under_update_erase A ρ σ i _ fun x t hx => h x t hx i (by simp [binders])]
    simp only [substF, eval, ihl σ ρ (h.mono fun j hj => by simp [binders, hj]),
      ihh σ ρ (h.mono fun j hj => by simp [binders, hj]), hb]

theorem evalList_substF (A : Alg V) : ∀ (es : List Expr) (σ : Subst) (ρ : Env V),
    (∀ x t, σ x = some t → ∀ i ∈ bindersList es, i ∉ fv t) →
    evalList A ρ (substFList σ es) = evalList A (under A ρ σ) es := by
  intro es σ ρ h
  rw [substFList_eq_map]
  exact evalList_map_congr _ es fun a ha =>
    eval_substF A a σ ρ fun x t hx i hi => h x t hx i (mem_bindersList.mpr ⟨a, ha, hi⟩)

theorem eval_subst (A : Alg V) (σ : Dict Expr) (ρ : Env V) (e : Expr) (h : NoCapture σ.get? e) :
    eval A ρ (subst σ e) = eval A (under A ρ σ.get?) e := eval_substF A e σ.get? ρ h

theorem noCapture_of_no_binders {σ : Subst} {e : Expr} (h : binders e = []) : NoCapture σ e := by
  intro x t _ i hi; simp [h] at hi

theorem under_get?_cons (A : Alg V) (ρ : Env V) (kv : String × Expr) (d : Dict Expr) :
    under A ρ (Dict.get? (kv :: d)) = (under A ρ (Dict.get? d)).update kv.1 (eval A ρ kv.2) := by
  funext x
  rw [update_apply, under, Dict.get?_cons]
  by_cases h : kv.1 = x
  · rw [if_pos h, if_pos h.symm]
  · rw [if_neg h, if_neg (Ne.symm h)]; rfl

def stage (σ₁ σ₂ : Subst) : Subst := fun x => match σ₁ x with | some t => some t | none => σ₂ x

theorem stage_erase (σ₁ σ₂ : Subst) (i : String) : stage (σ₁.erase i) (σ₂.erase i) = (stage σ₁ σ₂).erase i := by
  funext x; by_cases h : x = i <;> simp [stage, Subst.erase, h]

theorem substF_staged (e : Expr) (σ₁ σ₂ : Subst) (h : ∀ x t, σ₁ x = some t → fv t = []) :
    substF σ₂ (substF σ₁ e) = substF (stage σ₁ σ₂) e := by
  induction e using Expr.ind generalizing σ₁ σ₂ with
  | hnum q => rfl
  | hsym s =>
    simp only [substF, stage]
    cases h1 : σ₁ s with
    | none => rfl
    | some t => exact substF_closed t σ₂ (h s t h1)
  | hneg a ih => rw [substF, substF, substF, ih σ₁ σ₂ h]
  | hbin op a b iha ihb => rw [substF, substF, substF, iha σ₁ σ₂ h, ihb σ₁ σ₂ h]
  | happ f args ih =>
    simp only [substF, substFList_eq_map, List.map_map]
    exact congrArg _ (List.map_congr_left fun a ha => ih a ha σ₁ σ₂ h)
  | hbig k body i lo hi ihb ihl ihh =>
    rw [substF, substF, substF, ihb _ _ fun x t hx => h x t (Subst.erase_eq_some.mp hx).2, stage_erase, ihl σ₁ σ₂ h, ihh σ₁ σ₂ h]

theorem substFList_staged : ∀ (es : List Expr) (σ₁ σ₂ : Subst), (∀ x t, σ₁ x = some t → fv t = []) →
    substFList σ₂ (substFList σ₁ es) = substFList (stage σ₁ σ₂) es := by
  intro es σ₁ σ₂ h
  simp only [substFList_eq_map, List.map_map]
  exact List.map_congr_left fun a _ => substF_staged a σ₁ σ₂ h

theorem subst_staged (σ₁ σ₂ : Dict Expr) (e : Expr) (h : ∀ kv ∈ σ₁, fv kv.2 = []) :
    subst σ₂ (subst σ₁ e) = subst (σ₁ ++ σ₂) e := by
  unfold subst
  rw [substF_staged e _ _ fun x t hx => h (x, t) (Dict.get?_some_mem σ₁ x t hx)]
  refine substF_congr (fun x => ?_) e
  rw [stage, Dict.get?_append]
  cases σ₁.get? x <;> rfl

/-- the conclusion of `fv_substF` only grows with the list of free symbols -/
private theorem fv_substF_mono {σ : Subst} {x : String} {l l' : List String} (hl : ∀ y ∈ l, y ∈ l') :
    ((x ∈ l ∧ σ x = none) ∨ ∃ y t, y ∈ l ∧ σ y = some t ∧ x ∈ fv t) →
    (x ∈ l' ∧ σ x = none) ∨ ∃ y t, y ∈ l' ∧ σ y = some t ∧ x ∈ fv t :=
  Or.imp (And.imp_left (hl x)) fun ⟨y, t, hy, r⟩ => ⟨y, t, hl y hy, r⟩

theorem fv_substF (e : Expr) (σ : Subst) (x : String) (h : x ∈ fv (substF σ e)) :
    (x ∈ fv e ∧ σ x = none) ∨ (∃ y t, y ∈ fv e ∧ σ y = some t ∧ x ∈ fv t) := by
  induction e using Expr.ind generalizing σ with
  | hnum q => cases h
  | hsym s =>
    simp only [substF] at h
    cases hs : σ s with
    | none => rw [hs] at h; cases List.mem_singleton.mp h; exact Or.inl ⟨h, hs⟩
    | some t => rw [hs] at h; exact Or.inr ⟨s, t, List.mem_singleton_self s, hs, h⟩
  | hneg a ih => exact ih σ h
  | hbin op a b iha ihb =>
    rcases List.mem_append.mp h with h | h
    · exact fv_substF_mono (fun y => List.mem_append_left _) (iha σ h)
    · exact fv_substF_mono (fun y => List.mem_append_right _) (ihb σ h)
  | happ f args ih =>
    rw [substF, fv, substFList_eq_map, mem_fvList_map] at h
    obtain ⟨a, ha, hx⟩ := h
    exact fv_substF_mono (fun y hy => mem_fvList.mpr ⟨a, ha, hy⟩) (ih a ha σ hx)
  | hbig k body i lo hi ihb ihl ihh =>
    rw [substF, mem_fv_big] at h
    rcases h with ⟨h, hxi⟩ | h | h
    · rcases ihb (σ.erase i) h with ⟨h1, h2⟩ | ⟨y, t, hy, hσ, hx⟩
      · exact Or.inl ⟨mem_fv_big.mpr (.inl ⟨h1, hxi⟩), (Subst.erase_eq_none.mp h2).resolve_left hxi⟩
      · obtain ⟨hyi, hσ⟩ := Subst.erase_eq_some.mp hσ
        exact Or.inr ⟨y, t, mem_fv_big.mpr (.inl ⟨hy, hyi⟩), hσ, hx⟩
    · exact fv_substF_mono (fun y hy => mem_fv_big.mpr (.inr (.inl hy))) (ihl σ h)
    · exact fv_substF_mono (fun y hy => mem_fv_big.mpr (.inr (.inr hy))) (ihh σ h)

theorem fvList_substF : ∀ (es : List Expr) (σ : Subst) (x : String), x ∈ fvList (substFList σ es) →
    (x ∈ fvList es ∧ σ x = none) ∨ (∃ y t, y ∈ fvList es ∧ σ y = some t ∧ x ∈ fv t) := by
  intro es σ x h
  rw [substFList_eq_map, mem_fvList_map] at h
  obtain ⟨a, ha, hx⟩ := h
  exact fv_substF_mono (fun y hy => mem_fvList.mpr ⟨a, ha, hy⟩) (fv_substF a σ x hx)

theorem fv_subst_closed (d : Dict Expr) (e : Expr) (G : List String)
    (hd : ∀ kv ∈ d, ∀ x ∈ fv kv.2, x ∈ G) (he : ∀ x ∈ fv e, d.get? x ≠ none ∨ x ∈ G) :
    ∀ x ∈ fv (subst d e), x ∈ G := by
  intro x hx
  rcases fv_substF e d.get? x hx with ⟨h1, h2⟩ | ⟨y, t, _, hσ, hxt⟩
  · exact (he x h1).resolve_left fun h => h h2
  · exact hd (y, t) (Dict.get?_some_mem d y t hσ) x hxt

end Expr
end Bartiq
