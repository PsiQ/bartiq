/-
  Independent children can be compiled in either order: the compiled children are the same and the
  parameter tree handed on is the same up to the order of its entries.  Any two processing orders that respect the wiring are
  connected by such exchanges, so they give the same compiled children and the same compiled parent.
-/
import BartiqProofs.CompileCongr
namespace Bartiq
open Dict

/-! ### exchanging two independent children -/

/-- no wire between the two children, in either direction -/
def Independent (conns : List (Endpoint × Endpoint)) (a b : String) : Prop :=
  ∀ c ∈ conns, ¬ (c.1.routine = some a ∧ c.2.routine = some b) ∧ ¬ (c.1.routine = some b ∧ c.2.routine = some a)

/-- every port is the target of at most one connection (what verification enforces) -/
def TargetsDistinct (conns : List (Endpoint × Endpoint)) : Prop := ∀ c1 ∈ conns, ∀ c2 ∈ conns, c1.2 = c2.2 → c1 = c2

instance (conns : List (Endpoint × Endpoint)) (a b : String) : Decidable (Independent conns a b) :=
  inferInstanceAs (Decidable (∀ c ∈ conns, _))
instance (conns : List (Endpoint × Endpoint)) : Decidable (TargetsDistinct conns) :=
  inferInstanceAs (Decidable (∀ c1 ∈ conns, ∀ c2 ∈ conns, _))

theorem upd_entries {conns : List (Endpoint × Endpoint)} {x : String} {ports : List Port} {upd : PUpdate}
    (h : paramTreeFromCompiledPorts (connectionsFrom conns (some x)) ports = .ok upd) :
    ∀ e ∈ upd, ∃ c ∈ conns, c.1.routine = some x ∧ e.1 = c.2.routine ∧ e.2.1 = "#" ++ c.2.port := by
  intro e he
  obtain ⟨st, hst, h1, h2, _⟩ := paramTreeFromSizes_entries h e he
  obtain ⟨c, hc, hr, _, hc2⟩ := mem_connectionsFrom hst
  exact ⟨c, hc, hr, hc2 ▸ h1, hc2 ▸ h2⟩

/-- **two children without a wire between them can be compiled in either order**: the same compiled children, the same
    compiled siblings after them, and a parameter tree that differs at most in the order of its entries -/
theorem compileChildren_swap (C : Comparator) (conns : List (Endpoint × Endpoint)) (path : String) (pm : PTree) (hw : PWF pm)
    (a b : Routine) (rest : List Routine) (hab : a.name ≠ b.name) (hind : Independent conns a.name b.name)
    (htd : TargetsDistinct conns) (p : PTree) (ca cb : CRoutine) (ccs : List CRoutine)
    (h : compileChildren C conns path pm (a :: b :: rest) = .ok (p, ca :: cb :: ccs)) :
    ∃ p', compileChildren C conns path pm (b :: a :: rest) = .ok (p', cb :: ca :: ccs) ∧ PEq p p' := by
  obtain ⟨ca', upd_a, ccs1, hca, hua, hrest1, hout⟩ := compileChildren_cons_iff.mp h
  obtain ⟨cb', upd_b, ccs2, hcb, hub, hrest2, rfl⟩ := compileChildren_cons_iff.mp hrest1
  cases hout
  have hea := upd_entries hua
  have heb := upd_entries hub
  -- a's update does not address b, b's does not address a
  have na : ∀ e ∈ upd_a, e.1 ≠ some b.name := fun e he hb => by
    obtain ⟨c, hc, hc1, hc2, _⟩ := hea e he
    exact (hind c hc).1 ⟨hc1, hc2 ▸ hb⟩
  have nb : ∀ e ∈ upd_b, e.1 ≠ some a.name := fun e he hb => by
    obtain ⟨c, hc, hc1, hc2, _⟩ := heb e he
    exact (hind c hc).2 ⟨hc1, hc2 ▸ hb⟩
  -- the two updates write different slots: the same slot would be the target of one connection leaving both a and b
  have hdis : PUpdate.disjoint upd_a upd_b := by
    intro ea hea' eb heb' heq
    obtain ⟨c1, hc1, s1, r1, k1⟩ := hea ea hea'
    obtain ⟨c2, hc2, s2, r2, k2⟩ := heb eb heb'
    have hr : c1.2.routine = c2.2.routine := r1 ▸ r2 ▸ (Prod.mk.inj heq).1
    have hp : c1.2.port = c2.2.port := (String.append_right_inj "#").mp (k1 ▸ k2 ▸ (Prod.mk.inj heq).2)
    have : c1.2 = c2.2 := match c1.2, c2.2, hr, hp with | ⟨_, _⟩, ⟨_, _⟩, rfl, rfl => rfl
    rw [htd c1 hc1 c2 hc2 this, s2] at s1
    exact hab (Option.some.inj s1).symm
  -- b first: its inputs are those it had after a
  have inb : (pm.kids.get? b.name) = ((pm.mergeUpd upd_a).kids.get? b.name) := (kids_get?_mergeUpd_other b.name upd_a pm na).symm
  have ina : ((pm.mergeUpd upd_b).kids.get? a.name) = (pm.kids.get? a.name) := kids_get?_mergeUpd_other a.name upd_b pm nb
  have hcomm := mergeUpd_comm upd_b upd_a pm hw hdis
  obtain ⟨p', h3, hp⟩ := (compileChildren_congr C rest conns path _ _ hcomm).ok_left hrest2
  exact ⟨p', compileChildren_cons_ok (inb ▸ hcb) hub (compileChildren_cons_ok (ina ▸ hca) hua h3), hp⟩

/-! ### any two processing orders that respect the wiring -/

def Feeds (conns : List (Endpoint × Endpoint)) (x y : String) : Prop := ∃ c ∈ conns, c.1.routine = some x ∧ c.2.routine = some y

instance (conns : List (Endpoint × Endpoint)) (x y : String) : Decidable (Feeds conns x y) :=
  inferInstanceAs (Decidable (∃ c ∈ conns, _))

/-- a processing order in which no child is fed by a child that comes later -/
def ValidOrder (conns : List (Endpoint × Endpoint)) : List Routine → Prop
  | [] => True
  | a :: rest => (∀ b ∈ rest, ¬ Feeds conns b.name a.name) ∧ ValidOrder conns rest

theorem independent_of_not_feeds {conns : List (Endpoint × Endpoint)} {a b : String} (h1 : ¬ Feeds conns a b) (h2 : ¬ Feeds conns b a) :
    Independent conns a b := fun c hc => ⟨fun h => h1 ⟨c, hc, h⟩, fun h => h2 ⟨c, hc, h⟩⟩

theorem validOrder_iff_pairwise {conns : List (Endpoint × Endpoint)} : ∀ {l : List Routine},
    ValidOrder conns l ↔ l.Pairwise fun a b => ¬ Feeds conns b.name a.name
  | [] => by simp [ValidOrder]
  | a :: l => by rw [ValidOrder, List.pairwise_cons, validOrder_iff_pairwise]

theorem validOrder_iff_names {conns : List (Endpoint × Endpoint)} {l : List Routine} :
    ValidOrder conns l ↔ (l.map (·.name)).Pairwise fun a b => ¬ Feeds conns b a := by
  rw [validOrder_iff_pairwise, List.pairwise_map]

theorem ValidOrder.not_feeds_earlier {conns : List (Endpoint × Endpoint)} {a : Routine} {pre post : List Routine}
    (h : ValidOrder conns (pre ++ a :: post)) : ∀ b ∈ pre, ¬ Feeds conns a.name b.name :=
  fun b hb => (List.pairwise_append.mp (validOrder_iff_pairwise.mp h)).2.2 b hb a List.mem_cons_self

theorem ValidOrder.remove {conns : List (Endpoint × Endpoint)} {a : Routine} {post : List Routine} :
    ∀ {pre : List Routine}, ValidOrder conns (pre ++ a :: post) → ValidOrder conns (pre ++ post) :=
  fun h => validOrder_iff_pairwise.mpr
    ((validOrder_iff_pairwise.mp h).sublist ((List.sublist_cons_self a post).append_left _))

/-- a child that is independent of a block of siblings can be moved behind the block -/
theorem compileChildren_move {C : Comparator} {conns : List (Endpoint × Endpoint)} {path : String} (htd : TargetsDistinct conns)
    {a : Routine} {post : List Routine} : ∀ (pre : List Routine) {pm p : PTree} {out : List CRoutine}, PWF pm →
    (∀ b ∈ pre, a.name ≠ b.name ∧ Independent conns a.name b.name) →
    compileChildren C conns path pm (a :: (pre ++ post)) = .ok (p, out) →
    ∃ p' out', compileChildren C conns path pm (pre ++ a :: post) = .ok (p', out') ∧ PEq p p' ∧ out.Perm out'
  | [], _, p, out, hw, _, h => ⟨p, out, h, compileChildren_wf hw h, .refl _⟩
  | b :: pre, pm, p, out, hw, hind, h => by
    obtain ⟨ca, _, _, _, _, hrest, rfl⟩ := compileChildren_cons_iff.mp h
    obtain ⟨cb, _, ccs, _, _, _, rfl⟩ := compileChildren_cons_iff.mp hrest
    -- exchange `a` with `b`, then move it behind the rest of the block
    obtain ⟨hab, hi⟩ := hind b List.mem_cons_self
    obtain ⟨p1, hswap, hp1⟩ := compileChildren_swap C conns path pm hw a b (pre ++ post) hab hi htd p ca cb ccs h
    obtain ⟨_, upd_b, _, hcb, hub, hrest', hout⟩ := compileChildren_cons_iff.mp hswap
    cases hout
    obtain ⟨p2, out2, hmove, hp2, hperm⟩ := compileChildren_move htd pre (hw.mergeUpd upd_b)
      (fun x hx => hind x (List.mem_cons_of_mem _ hx)) hrest'
    exact ⟨p2, cb :: out2, compileChildren_cons_ok hcb hub hmove, hp1.trans hp2, (List.Perm.swap cb ca ccs).trans (hperm.cons cb)⟩

/-- **children are processed consistently with the wiring whatever order they are listed in**: any two processing orders
    in which no child is fed by a later one compile every child to the same result and hand on the same parameters (up to the
    order of dictionary entries) -/
theorem compileChildren_order_irrelevant (C : Comparator) (conns : List (Endpoint × Endpoint)) (path : String)
    (htd : TargetsDistinct conns) : ∀ (l1 l2 : List Routine) (pm : PTree), PWF pm → l1.Perm l2 → (l1.map (·.name)).Nodup →
    ValidOrder conns l1 → ValidOrder conns l2 →
    ∀ (p1 : PTree) (out1 : List CRoutine), compileChildren C conns path pm l1 = .ok (p1, out1) →
    ∃ p2 out2, compileChildren C conns path pm l2 = .ok (p2, out2) ∧ PEq p1 p2 ∧ out1.Perm out2
  | [], l2, pm, hw, hp, _, _, _, p1, out1, h => by
    cases hp.symm.eq_nil
    exact ⟨p1, out1, h, compileChildren_wf hw h, .refl _⟩
  | a :: l1, l2, pm, hw, hp, hnd, hv1, hv2, p1, out1, h => by
    -- `a` stands somewhere in `l2`; the children before it there come after it in `a :: l1`, so they are independent of it
    obtain ⟨pre, post, rfl⟩ := List.append_of_mem (hp.mem_iff.mp List.mem_cons_self)
    have hp' : l1.Perm (pre ++ post) := (hp.trans List.perm_middle).cons_inv
    obtain ⟨ha, hnd⟩ := List.nodup_cons.mp hnd
    obtain ⟨ca, upd_a, ccs1, hca, hua, hrest, rfl⟩ := compileChildren_cons_iff.mp h
    obtain ⟨p2, out2, h2, hp2, hperm2⟩ := compileChildren_order_irrelevant C conns path htd l1 (pre ++ post) _
      (hw.mergeUpd upd_a) hp' hnd hv1.2 hv2.remove p1 ccs1 hrest
    have hind : ∀ b ∈ pre, a.name ≠ b.name ∧ Independent conns a.name b.name := fun b hb =>
      have hb1 : b ∈ l1 := hp'.mem_iff.mpr (List.mem_append_left _ hb)
      ⟨fun e => ha (List.mem_map.mpr ⟨b, hb1, e.symm⟩), independent_of_not_feeds (hv2.not_feeds_earlier b hb) (hv1.1 b hb1)⟩
    obtain ⟨p3, out3, h3, hp3, hperm3⟩ := compileChildren_move htd pre hw hind (compileChildren_cons_ok hca hua h2)
    exact ⟨p3, out3, h3, hp2.trans hp3, (hperm2.cons ca).trans hperm3⟩

/-! ### the parent node: listing its children in another valid order -/

/-- the bindings `child.resource ↦ value` the parent reads -/
def cvList (cs : List CRoutine) : Dict Expr := cs.flatMap fun c => c.resources.map fun r => (c.name ++ "." ++ r.name, r.value)

theorem childrenVariables_perm {ccs ccs' : List CRoutine} (hp : ccs.Perm ccs') (hn : NodupKeys (cvList ccs)) :
    DEq (childrenVariables ccs) (childrenVariables ccs') :=
  DEq.merge (DEq.refl nodupKeys_nil) ⟨hp.flatMap_right _, hn⟩

/-- **the compiled parent does not depend on the order in which its children are processed**: for any two orders that respect
    the wiring, the parent gets the same ports, resources, input parameters, constraints and repetition, and the same compiled
    children up to the order in which they are listed -/
theorem compile_children_order (C : Comparator) (r : Routine) (ch' : List Routine) (σ : Dict Expr) (path : String)
    (hperm : r.children.Perm ch') (hnd : (r.children.map (·.name)).Nodup) (htd : TargetsDistinct r.conns)
    (hv : ValidOrder r.conns r.children) (hv' : ValidOrder r.conns ch') (c : CRoutine) (h : compile C σ path r = .ok c)
    (hkeys : NodupKeys (cvList c.children)) :
    ∃ ccs', compile C σ path { r with children := ch' } = .ok { c with children := ccs' } ∧ c.children.Perm ccs' := by
  obtain ⟨t, rfl⟩ := compile_ok_iff.mp h
  have hpm := pmInit_congr (σ := σ) (DEq.refl (nodupKeys_merge (compileLocalVariables_nodup t.hlv))) r.linked hperm
  -- the children in the other order, first from the same tree, then from the tree whose children entries are listed in the other order
  obtain ⟨p2, out2, h2, hp2, hperm2⟩ := compileChildren_order_irrelevant C r.conns path htd _ ch' _ (hpm.wf_left.mergeUpd t.upd)
    hperm hnd hv hv' _ _ t.hch
  obtain ⟨p3, h3, hp3⟩ := (compileChildren_congr C ch' r.conns path _ _ (hpm.mergeUpd t.upd)).ok_left h2
  have hself : DEq (Dict.merge t.pm2.self (childrenVariables t.ccs)) (Dict.merge p3.self (childrenVariables out2)) :=
    DEq.merge (hp2.self.trans hp3.self) (childrenVariables_perm hperm2 hkeys)
  have hports := evaluatePorts_congr hpm.self.sameAssignment (Port.portsOf r.ports [.input, .through])
  refine ⟨out2, compile_ok_iff.mpr ⟨
    { lv := t.lv, nc := t.nc, upd := t.upd, pm2 := p3, ccs := out2, res := t.res, rep' := t.rep',
      hlv := t.hlv, hnc := t.hnc, hupd := hports ▸ t.hupd, hch := h3, hrep := ?_ }, ?_⟩, hperm2⟩
  · exact repStep_congr r.rep r.resources hperm2 hself.sameAssignment ▸ t.hrep
  · simp only [CompileTrace.result, finishNode, hports, evaluatePorts_congr hself.sameAssignment, evaluateResources_congr hself.sameAssignment]

end Bartiq
