/-
  `Resource.set` is the dict update `{**rs, r.name: r}` on a resource list: it replaces the first resource of that name, or
  appends.  Lookup (`find?`) sees it as such; membership only one-sidedly, since later resources of the same name stay.
-/
import BartiqModel.Routine
namespace Bartiq.Resource

theorem find?_cons (a : Resource) (as : List Resource) (n : String) :
    find? (a :: as) n = if a.name = n then some a else find? as n := by
  simp only [find?, List.find?_cons]
  by_cases h : a.name = n <;> simp [h]

theorem name_of_find? {l : List Resource} {n : String} {x : Resource} (h : find? l n = some x) : x.name = n := by
  simpa using List.find?_some h

theorem find?_set (l : List Resource) (z : Resource) (n : String) :
    find? (set l z) n = if z.name = n then some z else find? l n := by
  induction l with
  | nil => simp [set, find?_cons]
  | cons a as ih =>
    simp only [set]
    by_cases ha : a.name = z.name
    · simp only [ha, if_true, find?_cons]
      split <;> rfl
    · rw [if_neg ha, find?_cons, ih]
      by_cases hn : a.name = n
      · rw [if_pos hn, if_neg (hn ▸ Ne.symm ha), find?_cons, if_pos hn]
      · rw [if_neg hn, find?_cons, if_neg hn]

theorem set_append (rs s : List Resource) (x : Resource) (h : find? rs x.name = none) : set (rs ++ s) x = rs ++ set s x := by
  induction rs with
  | nil => rfl
  | cons y ys ih =>
    rw [find?_cons] at h
    split at h
    · cases h
    · rename_i hy
      simp only [List.cons_append, set, hy, if_false, ih h]

theorem set_of_find?_none {l : List Resource} {z : Resource} (h : find? l z.name = none) : set l z = l ++ [z] := by
  have := set_append l [] z h
  rwa [List.append_nil] at this

theorem foldl_set_append (xs rs : List Resource) (h : ∀ x ∈ xs, find? rs x.name = none) (s : List Resource) :
    xs.foldl set (rs ++ s) = rs ++ xs.foldl set s := by
  induction xs generalizing s with
  | nil => rfl
  | cons x xs ih =>
    rw [List.foldl_cons, set_append rs s x (h x List.mem_cons_self), ih fun y hy => h y (List.mem_cons_of_mem _ hy)]
    rfl

theorem foldl_set_eq_append (xs rs : List Resource) (h : ∀ x ∈ xs, find? rs x.name = none) :
    xs.foldl set rs = rs ++ xs.foldl set [] := by
  simpa using foldl_set_append xs rs h []

theorem mem_set_self (l : List Resource) (z : Resource) : z ∈ set l z :=
  List.mem_of_find?_eq_some (by rw [find?_set, if_pos rfl] : find? (set l z) z.name = some z)

theorem mem_set {l : List Resource} {z y : Resource} (h : y ∈ set l z) : y ∈ l ∨ y = z := by
  induction l with
  | nil => exact Or.inr (List.mem_singleton.mp h)
  | cons a as ih =>
    simp only [set] at h
    split at h
    · exact (List.mem_cons.mp h).symm.imp_left (List.mem_cons_of_mem _)
    · rcases List.mem_cons.mp h with h | h
      · exact Or.inl (h ▸ List.mem_cons_self)
      · exact (ih h).imp_left (List.mem_cons_of_mem _)

theorem mem_set_of_mem {l : List Resource} {y : Resource} (z : Resource) (h : y ∈ l) : y ∈ set l z ∨ y.name = z.name := by
  induction l with
  | nil => cases h
  | cons a as ih =>
    simp only [set]
    split
    · rename_i ha
      rcases List.mem_cons.mp h with h | h
      · exact Or.inr (h ▸ ha)
      · exact Or.inl (List.mem_cons_of_mem _ h)
    · rcases List.mem_cons.mp h with h | h
      · exact Or.inl (h ▸ List.mem_cons_self)
      · exact (ih h).imp_left (List.mem_cons_of_mem _)

theorem mem_foldl_set {xs l : List Resource} {y : Resource} (h : y ∈ xs.foldl set l) : y ∈ l ∨ y ∈ xs := by
  induction xs generalizing l with
  | nil => exact Or.inl h
  | cons x xs ih =>
    rcases ih h with h | h
    · rcases mem_set h with h | rfl
      · exact Or.inl h
      · exact Or.inr List.mem_cons_self
    · exact Or.inr (List.mem_cons_of_mem _ h)

end Bartiq.Resource
