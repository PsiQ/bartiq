/-
  `_compile` cannot tell apart two parameter dictionaries that hold the same bindings in a
  different order (Python dicts filled in another insertion order, `DEq` of DictLemmas.lean, `PEq` of ParamTree.lean).  This is the
  congruence half of "results do not depend on listing order"; BartiqProofs/ChildOrder.lean uses it to exchange independent children.
-/
import BartiqProofs.CompileSpec
import BartiqProofs.EvaluateLemmas
import BartiqProofs.ParamTree
import BartiqProofs.SortLemmas
namespace Bartiq
open Expr Dict

/-! ### the pieces of `_compile` -/

theorem localsStep_congr (lvs : Dict Expr) {st st' : Dict Expr × Dict Expr} (h : st.1 = st'.1 ∧ DEq st.2 st'.2) (v : String) :
    (localsStep Expr.subst lvs st v).1 = (localsStep Expr.subst lvs st' v).1 ∧
      DEq (localsStep Expr.subst lvs st v).2 (localsStep Expr.subst lvs st' v).2 := by
  unfold localsStep
  cases lvs.get? v with
  | none => exact h
  | some e => simp only; rw [h.1, subst_congr_lookup h.2.get? e]; exact ⟨rfl, h.2.set _ _⟩

theorem compileLocalVariables_congr (lvs : Dict Expr) {σ σ' : Dict Expr} (h : DEq σ σ') :
    compileLocalVariables lvs σ = compileLocalVariables lvs σ' := by
  unfold compileLocalVariables
  cases localOrder lvs with
  | none => rfl
  | some order =>
    exact congrArg pure (List.foldl_rel (a := ([], σ)) (b := ([], σ')) (r := fun st st' => st.1 = st'.1 ∧ DEq st.2 st'.2) ⟨rfl, h⟩
      fun v _ _ _ hst => localsStep_congr lvs hst v).1

theorem localsStep_nodup {α : Type} (inst : Dict α → Expr → α) (lvs : Dict Expr) (st : Dict α × Dict α) (v : String)
    (h : NodupKeys st.1) : NodupKeys (localsStep inst lvs st v).1 := by
  unfold localsStep
  split
  · exact nodupKeys_set _ _ _ h
  · exact h

theorem compileLocalVariables_nodup {lvs σ lv : Dict Expr} (h : compileLocalVariables lvs σ = .ok lv) : NodupKeys lv := by
  obtain ⟨order, _, rfl⟩ := compileLocalVariables_ok h
  exact List.foldlRecOn (motive := fun st => NodupKeys st.1) order _ (b := ([], σ)) nodupKeys_nil
    fun st hst v _ => localsStep_nodup _ lvs st v hst

theorem compileLinkedParams_congr {σ σ' : Dict Expr} (h : ∀ x, σ.get? x = σ'.get? x) (lks : Dict (List (String × String))) :
    compileLinkedParams σ lks = compileLinkedParams σ' lks := by
  unfold compileLinkedParams
  congr 1; funext kv
  simp only [subst_congr_lookup h]

theorem newInputParams_congr (ips : List String) {σ σ' : Dict Expr} (h : DEq σ σ') (ports : List Port) :
    newInputParams ips σ ports = newInputParams ips σ' ports := by
  unfold newInputParams
  apply dedupSorted_eq_of_perm
  apply List.Perm.append _ (List.Perm.refl _)
  rw [h.perm.isEmpty_eq]
  split
  · exact List.Perm.refl _
  · exact (h.perm.map _).flatMap_right _

/-- the parameter tree starts with an empty dictionary for every child -/
theorem get?_kidsInit (c : String) : ∀ (ch : List Routine),
    Dict.get? (ch.map fun k => (k.name, ([] : Dict Expr))) c = if c ∈ ch.map (·.name) then some [] else none
  | [] => rfl
  | k :: ch => by
    rw [List.map_cons, Dict.get?_cons, get?_kidsInit c ch]
    by_cases hk : k.name = c
    · simp [hk]
    · simp [hk, Ne.symm hk]

/-- the initial parameter tree depends on the scope only as a mapping, and on the children only through the set of their names -/
theorem pmInit_congr {lv σ σ' : Dict Expr} (h : DEq (Dict.merge lv σ) (Dict.merge lv σ')) (lks : Dict (List (String × String)))
    {ch ch' : List Routine} (hp : ch.Perm ch') : PEq (pmInit lv σ lks ch) (pmInit lv σ' lks ch') := by
  unfold pmInit
  rw [compileLinkedParams_congr h.get? lks]
  refine PEq.mergeUpd ⟨h, fun c => ?_⟩ _
  simp only [get?_kidsInit, (hp.map _).mem_iff]
  split
  · exact DEq.refl nodupKeys_nil
  · trivial

/-- the repetition step only looks at whether there is exactly one compiled child, and at that child -/
theorem processRepeatedResources_perm (rp : Repetition) (rs : List Resource) {ccs ccs' : List CRoutine} (hp : ccs.Perm ccs') :
    processRepeatedResources rp rs (childSigs ccs) = processRepeatedResources rp rs (childSigs ccs') := by
  match ccs, ccs', hp with
  | [], _, hp => rw [hp.symm.eq_nil]
  | [x], _, hp => rw [List.perm_singleton.mp hp.symm]
  | _ :: _ :: _, [], hp => cases hp.eq_nil
  | _ :: _ :: _, [_], hp => cases List.perm_singleton.mp hp
  | _ :: _ :: _, _ :: _ :: _, _ => rfl

theorem repStep_congr (rep : Option Repetition) (rs : List Resource) {ccs ccs' : List CRoutine} (hp : ccs.Perm ccs')
    {σ σ' : Dict Expr} (h : SameAssignment σ σ') : repStep rep rs ccs σ = repStep rep rs ccs' σ' := by
  cases rep with
  | none => rfl
  | some rp => simp only [repStep, Repetition.substituteSymbols_congr h, processRepeatedResources_perm rp rs hp]

/-- the outcome of compiling a list of children, up to the order of the entries of the returned parameter tree -/
def RelRes : Except Err (PTree × List CRoutine) → Except Err (PTree × List CRoutine) → Prop
  | .ok (p, c), .ok (p', c') => PEq p p' ∧ c = c'
  | .error e, .error e' => e = e'
  | _, _ => False

theorem RelRes.ok_left {x x' : Except Err (PTree × List CRoutine)} (h : RelRes x x') {p : PTree} {c : List CRoutine}
    (hx : x = .ok (p, c)) : ∃ p', x' = .ok (p', c) ∧ PEq p p' := by
  subst hx
  match x', h with
  | .ok (p', _), ⟨hp, rfl⟩ => exact ⟨p', rfl, hp⟩

theorem RelRes.bind_left {α : Type} (x : Except Err α) {f f' : α → Except Err (PTree × List CRoutine)}
    (hf : ∀ a, RelRes (f a) (f' a)) : RelRes (x >>= f) (x >>= f') := by
  cases x with
  | error e => exact (rfl : e = e)
  | ok a => exact hf a

/-- related outcomes continued by functions that respect the relation; `R` is what is wanted of the results (equality, or `RelRes`
    again) -/
theorem RelRes.bind {β : Type} {R : Except Err β → Except Err β → Prop} (hR : ∀ e, R (.error e) (.error e))
    {x x' : Except Err (PTree × List CRoutine)} (h : RelRes x x') {f f' : PTree × List CRoutine → Except Err β}
    (hf : ∀ p p' c, PEq p p' → R (f (p, c)) (f' (p', c))) : R (x >>= f) (x' >>= f') := by
  match x, x', h with
  | .ok (p, c), .ok (p', _), ⟨hp, rfl⟩ => exact hf p p' c hp
  | .error e, .error _, rfl => exact hR e

mutual
/-- **`_compile` depends on its inputs only as a mapping** -/
theorem compile_congr (C : Comparator) : ∀ (r : Routine) (σ σ' : Dict Expr) (path : String), DEq σ σ' →
    compile C σ path r = compile C σ' path r
  | ⟨name, ty, ips, lvs, lks, ps, rs, cs, rep, cons, ch, ord⟩, σ, σ', path, h => by
    simp only [compile]
    rw [compileLocalVariables_congr lvs h]
    refine Except.bind_congr fun lv hlv => ?_
    have hnd := compileLocalVariables_nodup hlv
    have hm : DEq (Dict.merge lv σ) (Dict.merge lv σ') := DEq.merge (DEq.refl hnd) h
    have hpm := pmInit_congr hm lks (.refl ch)
    rw [evaluateConstraints_congr C hm.sameAssignment, evaluatePorts_congr hpm.self.sameAssignment]
    refine Except.bind_congr fun nc _ => Except.bind_congr fun upd _ => ?_
    refine (compileChildren_congr C ch cs path _ _ (hpm.mergeUpd upd)).bind (R := Eq) (fun _ => rfl) fun p p' c hp => ?_
    have hs : DEq (Dict.merge p.self (childrenVariables c)) (Dict.merge p'.self (childrenVariables c)) :=
      DEq.merge hp.self (DEq.refl (nodupKeys_merge nodupKeys_nil))
    simp only [repStep_congr rep rs (.refl c) hs.sameAssignment, finishNode, evaluatePorts_congr hs.sameAssignment,
      evaluateResources_congr hs.sameAssignment, newInputParams_congr ips h]
theorem compileChildren_congr (C : Comparator) : ∀ (ch : List Routine) (conns : List (Endpoint × Endpoint)) (path : String)
    (pm pm' : PTree), PEq pm pm' → RelRes (compileChildren C conns path pm ch) (compileChildren C conns path pm' ch)
  | [], _, _, pm, pm', h => ⟨h, rfl⟩
  | k :: ks, conns, path, pm, pm', h => by
    simp only [compileChildren]
    rw [compile_congr C k _ _ _ (h.kids k.name).getD]
    refine RelRes.bind_left _ fun cc => RelRes.bind_left _ fun upd => ?_
    exact (compileChildren_congr C ks conns path _ _ (h.mergeUpd upd)).bind (R := RelRes) (fun _ => rfl) fun p p' c hp => ⟨hp, rfl⟩
end

theorem compileChildren_wf {C : Comparator} {conns : List (Endpoint × Endpoint)} {path : String} {pm p : PTree} {ch : List Routine}
    {out : List CRoutine} (hw : PWF pm) (h : compileChildren C conns path pm ch = .ok (p, out)) : PWF p := by
  obtain ⟨p', h', hp⟩ := (compileChildren_congr C ch conns path pm pm hw).ok_left h
  cases h.symm.trans h'
  exact hp

end Bartiq
