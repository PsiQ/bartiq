/-
  Parameter trees (`PTree`, BartiqModel/Compile.lean) up to the order of the entries of their
  dictionaries: `_merge_param_trees` respects that equivalence, and two batches of updates that write different slots commute.
-/
import BartiqModel.Compile
import BartiqProofs.DictLemmas
namespace Bartiq
open Dict

/-- both absent, or both present with the same entries in some order -/
def KRel : Option (Dict Expr) → Option (Dict Expr) → Prop
  | none, none => True
  | some d, some d' => DEq d d'
  | _, _ => False

/-- the children's dictionaries, looked up by name, are pairwise related -/
def KEq (k k' : Dict (Dict Expr)) : Prop := ∀ c, KRel (k.get? c) (k'.get? c)

structure PEq (p p' : PTree) : Prop where
  self : DEq p.self p'.self
  kids : KEq p.kids p'.kids

/-- well-formed = related to itself: every dictionary of the tree has unique keys -/
abbrev PWF (p : PTree) : Prop := PEq p p

theorem KRel.symm : ∀ {a b : Option (Dict Expr)}, KRel a b → KRel b a
  | none, none, _ => trivial
  | some _, some _, h => DEq.symm h
  | none, some _, h | some _, none, h => h.elim

theorem KRel.trans : ∀ {a b c : Option (Dict Expr)}, KRel a b → KRel b c → KRel a c
  | none, none, _, _, h => h
  | some _, some _, some _, h1, h2 => DEq.trans h1 h2
  | some _, some _, none, _, h => h.elim
  | none, some _, _, h, _ | some _, none, _, h, _ => h.elim

theorem KRel.map {f g : Dict Expr → Dict Expr} (hfg : ∀ d d', DEq d d' → DEq (f d) (g d')) :
    ∀ {a b : Option (Dict Expr)}, KRel a b → KRel (a.map f) (b.map g)
  | none, none, _ => trivial
  | some d, some d', h => hfg d d' h
  | none, some _, h | some _, none, h => h.elim

/-- the inputs `compileChildren` hands to a child: its dictionary, or nothing if the tree has none for it -/
theorem KRel.getD : ∀ {a b : Option (Dict Expr)}, KRel a b → DEq (a.getD []) (b.getD [])
  | none, none, _ => DEq.refl nodupKeys_nil
  | some _, some _, h => h
  | none, some _, h | some _, none, h => h.elim

theorem PEq.symm {a b : PTree} (h : PEq a b) : PEq b a := ⟨h.self.symm, fun c => (h.kids c).symm⟩
theorem PEq.trans {a b c : PTree} (h1 : PEq a b) (h2 : PEq b c) : PEq a c :=
  ⟨h1.self.trans h2.self, fun x => (h1.kids x).trans (h2.kids x)⟩

theorem PEq.wf_left {a b : PTree} (h : PEq a b) : PWF a := h.trans h.symm
theorem PEq.wf_right {a b : PTree} (h : PEq a b) : PWF b := h.symm.trans h

/-! ### single updates -/

def PTreeG.step (t : PTree) (e : Option String × String × Expr) : PTree := t.mergeUpd [e]

theorem mergeUpd_nil (t : PTree) : t.mergeUpd [] = t := rfl
theorem mergeUpd_cons (t : PTree) (e : Option String × String × Expr) (u : PUpdate) : t.mergeUpd (e :: u) = (PTreeG.step t e).mergeUpd u := rfl
theorem mergeUpd_append (t : PTree) (u v : PUpdate) : t.mergeUpd (u ++ v) = (t.mergeUpd u).mergeUpd v := by
  simp [PTreeG.mergeUpd, List.foldl_append]

theorem self_step (t : PTree) (e : Option String × String × Expr) :
    (PTreeG.step t e).self = if e.1 = none then t.self.set e.2.1 e.2.2 else t.self := by
  obtain ⟨r, k, v⟩ := e
  cases r with
  | none => rfl
  | some c => cases hg : t.kids.get? c <;> simp [PTreeG.step, PTreeG.mergeUpd, hg]

theorem kids_get?_step (t : PTree) (e : Option String × String × Expr) (c : String) :
    (PTreeG.step t e).kids.get? c = if e.1 = some c then (t.kids.get? c).map (·.set e.2.1 e.2.2) else t.kids.get? c := by
  obtain ⟨r, k, v⟩ := e
  cases r with
  | none => rfl
  | some c' =>
    by_cases hc : c' = c
    · subst hc
      cases hg : t.kids.get? c' <;> simp [PTreeG.step, PTreeG.mergeUpd, hg, Dict.get?_set]
    · cases hg : t.kids.get? c' <;> simp [PTreeG.step, PTreeG.mergeUpd, hg, Dict.get?_set, hc]

theorem PEq.step {p p' : PTree} (h : PEq p p') (e : Option String × String × Expr) : PEq (PTreeG.step p e) (PTreeG.step p' e) := by
  refine ⟨?_, fun c => ?_⟩
  · rw [self_step, self_step]
    split
    · exact h.self.set _ _
    · exact h.self
  · rw [kids_get?_step, kids_get?_step]
    split
    · exact (h.kids c).map fun _ _ hd => hd.set _ _
    · exact h.kids c

theorem PEq.mergeUpd {p p' : PTree} (h : PEq p p') : ∀ (u : PUpdate), PEq (p.mergeUpd u) (p'.mergeUpd u)
  | [] => h
  | e :: u => (h.step e).mergeUpd u

theorem kids_get?_mergeUpd_other (c : String) : ∀ (u : PUpdate) (t : PTree), (∀ e ∈ u, e.1 ≠ some c) →
    (t.mergeUpd u).kids.get? c = t.kids.get? c
  | [], _, _ => rfl
  | e :: u, t, h => by
    rw [mergeUpd_cons, kids_get?_mergeUpd_other c u _ fun e' he' => h e' (List.mem_cons_of_mem _ he'), kids_get?_step,
      if_neg (h e List.mem_cons_self)]

/-! ### updates of different slots commute -/

theorem step_comm (t : PTree) (hw : PWF t) (e1 e2 : Option String × String × Expr) (hne : (e1.1, e1.2.1) ≠ (e2.1, e2.2.1)) :
    PEq (PTreeG.step (PTreeG.step t e1) e2) (PTreeG.step (PTreeG.step t e2) e1) := by
  obtain ⟨r1, k1, v1⟩ := e1
  obtain ⟨r2, k2, v2⟩ := e2
  refine ⟨?_, fun c => ?_⟩
  · simp only [self_step]
    by_cases h1 : r1 = none <;> by_cases h2 : r2 = none <;> simp only [h1, h2, if_true, if_false]
    · exact set_comm _ _ _ _ _ (fun e => hne (by rw [h1, h2, e])) hw.self.nodup
    · exact hw.self.set _ _
    · exact hw.self.set _ _
    · exact hw.self
  · simp only [kids_get?_step]
    by_cases h1 : r1 = some c <;> by_cases h2 : r2 = some c <;> simp only [h1, h2, if_true, if_false, Option.map_map]
    · exact (hw.kids c).map fun d d' hd =>
        ((hd.set _ _).set _ _).trans (set_comm d' _ _ _ _ (fun e => hne (by rw [h1, h2, e])) hd.nodup')
    · exact (hw.kids c).map fun _ _ hd => hd.set _ _
    · exact (hw.kids c).map fun _ _ hd => hd.set _ _
    · exact hw.kids c

def PUpdate.disjoint (u1 u2 : PUpdate) : Prop := ∀ e1 ∈ u1, ∀ e2 ∈ u2, (e1.1, e1.2.1) ≠ (e2.1, e2.2.1)

theorem mergeUpd_step_comm (e : Option String × String × Expr) : ∀ (u : PUpdate) (t : PTree), PWF t →
    (∀ e1 ∈ u, (e1.1, e1.2.1) ≠ (e.1, e.2.1)) →
    PEq (PTreeG.step (t.mergeUpd u) e) ((PTreeG.step t e).mergeUpd u)
  | [], _, hw, _ => hw.step e
  | e1 :: u, t, hw, h =>
    (mergeUpd_step_comm e u (PTreeG.step t e1) (hw.step e1) fun x hx => h x (List.mem_cons_of_mem _ hx)).trans
      ((step_comm t hw e1 e (h e1 List.mem_cons_self)).mergeUpd u)

/-- **two batches of updates that write different slots commute** -/
theorem mergeUpd_comm : ∀ (u2 u1 : PUpdate) (t : PTree), PWF t → PUpdate.disjoint u1 u2 →
    PEq ((t.mergeUpd u1).mergeUpd u2) ((t.mergeUpd u2).mergeUpd u1)
  | [], u1, _, hw, _ => hw.mergeUpd u1
  | e :: u2, u1, t, hw, h =>
    ((mergeUpd_step_comm e u1 t hw fun e1 he1 => h e1 he1 e List.mem_cons_self).mergeUpd u2).trans
      (mergeUpd_comm u2 u1 (PTreeG.step t e) (hw.step e) fun e1 he1 e2 he2 => h e1 he1 e2 (List.mem_cons_of_mem _ he2))

end Bartiq
