/-
  Re-listing the children at EVERY level of the hierarchy (each time in an order that respects
  the wiring) changes nothing but the order in which compiled children are listed.
-/
import BartiqProofs.ChildOrder
namespace Bartiq
open Dict

mutual
/-- `r'` is `r` with the children re-listed, at every level, in another order that respects the wiring (and possibly another
    recorded `children_order`); the side conditions verification provides are part of the relation: distinct child names, every
    port the target of at most one connection -/
def RSim : Routine → Routine → Prop
  | ⟨n, ty, ips, lvs, lks, ps, rs, cs, rep, cons, ch, _⟩, r' =>
    r'.name = n ∧ r'.type = ty ∧ r'.inputParams = ips ∧ r'.localVars = lvs ∧ r'.linked = lks ∧ r'.ports = ps ∧ r'.resources = rs ∧
    r'.conns = cs ∧ r'.rep = rep ∧ r'.constraints = cons ∧ (ch.map (·.name)).Nodup ∧ TargetsDistinct cs ∧ ValidOrder cs ch ∧
    ValidOrder cs r'.children ∧ ∃ mid, RSimList ch mid ∧ mid.Perm r'.children
def RSimList : List Routine → List Routine → Prop
  | [], l' => l' = []
  | a :: l, l' => ∃ a' l'', l' = a' :: l'' ∧ RSim a a' ∧ RSimList l l''
end

mutual
/-- compiled routines equal up to the order in which children are listed (and the recorded `children_order`), at every level -/
def CSim : CRoutine → CRoutine → Prop
  | ⟨n, ty, ips, ps, rs, cs, rep, cons, ch, _⟩, c' =>
    c'.name = n ∧ c'.type = ty ∧ c'.inputParams = ips ∧ c'.ports = ps ∧ c'.resources = rs ∧ c'.conns = cs ∧ c'.rep = rep ∧
    c'.constraints = cons ∧ ∃ mid, CSimList ch mid ∧ mid.Perm c'.children
def CSimList : List CRoutine → List CRoutine → Prop
  | [], l' => l' = []
  | a :: l, l' => ∃ a' l'', l' = a' :: l'' ∧ CSim a a' ∧ CSimList l l''
end

mutual
/-- the references `child.resource` are unambiguous at every level of a compiled routine -/
def CRoutine.RefsOK : CRoutine → Prop
  | ⟨_, _, _, _, _, _, _, _, ch, _⟩ => NodupKeys (cvList ch) ∧ CRoutine.RefsOKList ch
def CRoutine.RefsOKList : List CRoutine → Prop
  | [] => True
  | c :: cs => c.RefsOK ∧ CRoutine.RefsOKList cs
end

theorem RSim.name {r r' : Routine} (h : RSim r r') : r'.name = r.name := by
  obtain ⟨n, ty, ips, lvs, lks, ps, rs, cs, rep, cons, ch, ord⟩ := r
  exact h.1

theorem RSimList.names : ∀ {l l' : List Routine}, RSimList l l' → l'.map (·.name) = l.map (·.name)
  | [], _, h => by simp only [RSimList] at h; subst h; rfl
  | a :: l, l', h => by
    simp only [RSimList] at h
    obtain ⟨a', l'', rfl, ha, hl⟩ := h
    simp [ha.name, RSimList.names hl]

/-- `CSim` without taking the first routine apart -/
theorem CSim.iff {c c' : CRoutine} : CSim c c' ↔ c'.name = c.name ∧ c'.type = c.type ∧ c'.inputParams = c.inputParams ∧
    c'.ports = c.ports ∧ c'.resources = c.resources ∧ c'.conns = c.conns ∧ c'.rep = c.rep ∧ c'.constraints = c.constraints ∧
    ∃ mid, CSimList c.children mid ∧ mid.Perm c'.children := by
  obtain ⟨n, ty, ips, ps, rs, cs, rep, cons, ch, ord⟩ := c
  exact Iff.rfl

theorem CSim.fields {c c' : CRoutine} (h : CSim c c') : c'.name = c.name ∧ c'.ports = c.ports ∧ c'.resources = c.resources :=
  have ⟨h1, _, _, h4, h5, _⟩ := CSim.iff.mp h
  ⟨h1, h4, h5⟩

/-- what the parent reads of its compiled children — the bindings `child.resource ↦ value` and the resource names and types — is
    the same for re-listed children -/
theorem CSimList.reads : ∀ {l l' : List CRoutine}, CSimList l l' → cvList l' = cvList l ∧ childSigs l' = childSigs l
  | [], _, h => by
    simp only [CSimList] at h
    subst h
    exact ⟨rfl, rfl⟩
  | a :: l, l', h => by
    simp only [CSimList] at h
    obtain ⟨a', l'', rfl, ha, hl⟩ := h
    obtain ⟨h1, _, h3⟩ := ha.fields
    obtain ⟨ih1, ih2⟩ := CSimList.reads hl
    simp only [cvList, childSigs, List.flatMap_cons, List.map_cons] at ih1 ih2 ⊢
    rw [h1, h3, ih1, ih2]
    exact ⟨rfl, rfl⟩

/-- the recorded `children_order` is only copied into the result -/
theorem compile_ord {C : Comparator} {σ : Dict Expr} {path : String} {r : Routine} {c : CRoutine} (ord' : List String)
    (h : compile C σ path r = .ok c) : compile C σ path { r with childrenOrder := ord' } = .ok { c with childrenOrder := ord' } := by
  obtain ⟨t, rfl⟩ := compile_ok_iff.mp h
  exact compile_ok_iff.mpr ⟨⟨t.lv, t.nc, t.upd, t.pm2, t.ccs, t.res, t.rep', t.hlv, t.hnc, t.hupd, t.hch, t.hrep⟩, rfl⟩

theorem repStep_sigs {ccs ccs' : List CRoutine} (h : childSigs ccs' = childSigs ccs) (rep : Option Repetition) (rs : List Resource)
    (d : Dict Expr) : repStep rep rs ccs' d = repStep rep rs ccs d := by
  cases rep with
  | none => rfl
  | some rp => simp only [repStep, h]

/-- of its children a node uses the names, the parameter tree their compilation hands on, the bindings `child.resource ↦ value` and
    the resource names and types: children that agree on these give the same compiled node -/
theorem compile_children_replace {C : Comparator} {σ : Dict Expr} {path : String} {r : Routine} (t : CompileTrace C σ path r)
    {ch' : List Routine} {out' : List CRoutine} (hnames : ch'.map (·.name) = r.children.map (·.name))
    (hch : compileChildren C r.conns path ((pmInit t.lv σ r.linked r.children).mergeUpd t.upd) ch' = .ok (t.pm2, out'))
    (hcv : cvList out' = cvList t.ccs) (hsigs : childSigs out' = childSigs t.ccs) :
    compile C σ path { r with children := ch' } = .ok { t.result with children := out' } := by
  have hpm : pmInit t.lv σ r.linked ch' = pmInit t.lv σ r.linked r.children := by
    unfold pmInit
    rw [show (ch'.map fun c => (c.name, ([] : Dict Expr))) = r.children.map fun c => (c.name, ([] : Dict Expr)) by
      simpa [List.map_map, Function.comp_def] using congrArg (List.map fun n : String => (n, ([] : Dict Expr))) hnames]
  have hcvars : childrenVariables out' = childrenVariables t.ccs := congrArg Dict.ofList hcv
  refine compile_ok_iff.mpr ⟨
    { lv := t.lv, nc := t.nc, upd := t.upd, pm2 := t.pm2, ccs := out', res := t.res, rep' := t.rep',
      hlv := t.hlv, hnc := t.hnc, hupd := hpm ▸ t.hupd, hch := hpm ▸ hch, hrep := ?_ }, ?_⟩
  · rw [hcvars, repStep_sigs hsigs]
    exact t.hrep
  · simp only [CompileTrace.result, finishNode, hpm, hcvars]

mutual
/-- **re-listing children at every level leaves the compiled hierarchy unchanged up to the listing of compiled children** -/
theorem compile_sim (C : Comparator) : ∀ (r r' : Routine) (σ : Dict Expr) (path : String) (c : CRoutine),
    RSim r r' → compile C σ path r = .ok c → c.RefsOK → ∃ c', compile C σ path r' = .ok c' ∧ CSim c c'
  | ⟨n, ty, ips, lvs, lks, ps, rs, cs, rep, cons, ch, ord⟩, r', σ, path, c, hs, h, href => by
    obtain ⟨n', ty', ips', lvs', lks', ps', rs', cs', rep', cons', ch', ord'⟩ := r'
    simp only [RSim] at hs
    obtain ⟨rfl, rfl, rfl, rfl, rfl, rfl, rfl, rfl, rfl, rfl, hnd, htd, hv, hv', mid, hmid, hperm⟩ := hs
    obtain ⟨t, rfl⟩ := compile_ok_iff.mp h
    have hnames := RSimList.names hmid
    have hwf : PWF (pmInit t.lv σ lks' ch) := pmInit_congr (DEq.refl (nodupKeys_merge (compileLocalVariables_nodup t.hlv))) lks' (.refl ch)
    -- the children replaced by their re-listed versions, in the same order …
    obtain ⟨out', hch', hsim⟩ := compileChildren_sim C ch mid cs' path _ _ _ hmid (hwf.mergeUpd t.upd) t.hch href.2
    obtain ⟨hcv, hsigs⟩ := hsim.reads
    have hA := compile_children_replace t hnames hch' hcv hsigs
    -- … then permuted at this node …
    obtain ⟨ccs', hB, hpB⟩ := compile_children_order C _ ch' σ path hperm (hnames ▸ hnd) htd
      (validOrder_iff_names.mpr (hnames ▸ validOrder_iff_names.mp hv)) hv' _ hA (hcv ▸ href.1)
    -- … and the recorded order replaced
    have hC := compile_ord ord' hB
    exact ⟨_, hC, CSim.iff.mpr ⟨rfl, rfl, rfl, rfl, rfl, rfl, rfl, rfl, out', hsim, hpB⟩⟩
theorem compileChildren_sim (C : Comparator) : ∀ (l l' : List Routine) (conns : List (Endpoint × Endpoint)) (path : String)
    (pm p : PTree) (out : List CRoutine), RSimList l l' → PWF pm → compileChildren C conns path pm l = .ok (p, out) →
    CRoutine.RefsOKList out → ∃ out', compileChildren C conns path pm l' = .ok (p, out') ∧ CSimList out out'
  | [], l', conns, path, pm, p, out, hs, _, h, _ => by
    simp only [RSimList] at hs
    subst hs
    obtain ⟨rfl, rfl⟩ := compileChildren_nil h
    exact ⟨[], h, by simp [CSimList]⟩
  | a :: l, l', conns, path, pm, p, out, hs, hw, h, href => by
    simp only [RSimList] at hs
    obtain ⟨a', l'', rfl, ha, hl⟩ := hs
    obtain ⟨ca, upd, ccs, hca, hua, hrest, rfl⟩ := compileChildren_cons_iff.mp h
    simp only [CRoutine.RefsOKList] at href
    obtain ⟨ca', hca', hsa⟩ := compile_sim C a a' _ _ ca ha hca href.1
    obtain ⟨hn1, hn2, _⟩ := hsa.fields
    obtain ⟨out', hrest', hsl⟩ := compileChildren_sim C l l'' conns path _ p ccs hl (hw.mergeUpd upd) hrest href.2
    refine ⟨ca' :: out', ?_, by simp only [CSimList]; exact ⟨ca', out', rfl, hsa, hsl⟩⟩
    apply compileChildren_cons_ok (cc := ca') (upd := upd)
    · rw [ha.name]; exact hca'
    · rw [ha.name, hn2]; exact hua
    · exact hrest'
end

end Bartiq
