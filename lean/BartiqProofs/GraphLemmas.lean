/-
  Correctness and completeness of the model of `graphlib.TopologicalSorter.static_order` (BartiqModel/Graph.lean, Kahn's algorithm
  with predecessor counters): whatever it returns lists the nodes of the graph, each once, every node after all its registered
  predecessors, and it fails exactly when some node is (transitively) its own predecessor.  The idea throughout: the counter of a
  node is the number of its registrations whose predecessor has not been output yet (`count_add_waiting`).  Last, the graph
  that a dictionary whose entries depend on other entries hands to the sorter.
-/
import BartiqModel.Graph
import BartiqProofs.DictLemmas
import Mathlib.Data.List.Induction
import Mathlib.Data.List.Nodup
import Mathlib.Data.List.Perm.Subperm
namespace Bartiq

namespace Graph

/-- all (predecessor, node) registrations, with multiplicity, in registration order -/
def edges (g : G) : List (String × String) := g.flatMap fun kv => kv.2.map fun p => (p, kv.1)

theorem mem_edges {g : G} {p n : String} : (p, n) ∈ edges g ↔ ∃ ps, (n, ps) ∈ g ∧ p ∈ ps := by
  simp only [edges, List.mem_flatMap, List.mem_map, Prod.mk.injEq, Prod.exists]
  exact ⟨fun ⟨_, ps, h, _, hq, rfl, rfl⟩ => ⟨ps, h, hq⟩, fun ⟨ps, h, hp⟩ => ⟨n, ps, h, p, hp, rfl, rfl⟩⟩

theorem mem_addNode {ns : List String} {n x : String} : x ∈ addNode ns n ↔ x ∈ ns ∨ x = n := by
  unfold addNode
  split
  · next hc => exact ⟨Or.inl, fun h => h.elim id fun e => e ▸ List.contains_iff_mem.mp hc⟩
  · simp

theorem addNode_nodup {ns : List String} (n : String) (h : ns.Nodup) : (addNode ns n).Nodup := by
  unfold addNode
  split
  · exact h
  · next hc => exact List.concat_eq_append ▸ h.concat fun hn => hc (List.contains_iff_mem.mpr hn)

theorem mem_foldl_addNode {x : String} : ∀ {ps ns : List String}, x ∈ ps.foldl addNode ns ↔ x ∈ ns ∨ x ∈ ps
  | [], ns => by simp
  | p :: ps, ns => by rw [List.foldl_cons, mem_foldl_addNode, mem_addNode, List.mem_cons, or_assoc]

theorem foldl_addNode_nodup : ∀ (ps : List String) {ns : List String}, ns.Nodup → (ps.foldl addNode ns).Nodup
  | [], _, h => h
  | p :: ps, _, h => foldl_addNode_nodup ps (addNode_nodup p h)

theorem nodes_eq (g : G) : nodes g = (g.flatMap fun kv => kv.1 :: kv.2).foldl addNode [] := by
  rw [List.foldl_flatMap]
  rfl

theorem nodes_nodup (g : G) : (nodes g).Nodup := nodes_eq g ▸ foldl_addNode_nodup _ List.nodup_nil

theorem mem_nodes {g : G} {x : String} : x ∈ nodes g ↔ (∃ ps, (x, ps) ∈ g) ∨ ∃ n, (x, n) ∈ edges g := by
  simp only [nodes_eq, mem_foldl_addNode, List.not_mem_nil, false_or, List.mem_flatMap, List.mem_cons, mem_edges, Prod.exists]
  constructor
  · rintro ⟨n, ps, h, rfl | hx⟩
    · exact Or.inl ⟨ps, h⟩
    · exact Or.inr ⟨n, ps, h, hx⟩
  · rintro (⟨ps, h⟩ | ⟨n, ps, h, hx⟩)
    · exact ⟨x, ps, h, Or.inl rfl⟩
    · exact ⟨n, ps, h, Or.inr hx⟩

theorem edge_mem_nodes {g : G} {p n : String} (h : (p, n) ∈ edges g) : p ∈ nodes g ∧ n ∈ nodes g :=
  ⟨mem_nodes.mpr (Or.inr ⟨n, h⟩), mem_nodes.mpr (Or.inl ((mem_edges.mp h).imp fun _ h => h.1))⟩

theorem succs_eq (g : G) (p : String) : succs g p = ((edges g).filter fun e => e.1 = p).map (·.2) := by
  simp [succs, edges, List.filter_flatMap, List.map_flatMap, List.filter_map, Function.comp_def]

theorem mem_succs {g : G} {p s : String} : s ∈ succs g p ↔ (p, s) ∈ edges g := by
  simp [succs_eq]

theorem count_succs (g : G) (p s : String) : (succs g p).count s = (edges g).countP fun e => e.1 = p ∧ e.2 = s := by
  rw [succs_eq, List.count, List.countP_map, List.countP_filter]
  exact List.countP_congr fun e _ => by simp [and_comm]

theorem npred_eq (g : G) (n : String) : npred g n = (edges g).countP fun e => e.2 = n := by
  unfold npred edges
  rw [List.foldl_filter, List.countP_flatMap, List.sum_eq_foldl, List.foldl_map]
  congr 1
  funext acc kv
  by_cases h : kv.1 = n <;> simp [h, List.countP_map, Function.comp_def]

/-- of the registrations of `s`, those from a duplicate-free list `L` of processed nodes have been counted down, the others
    are still waiting -/
theorem count_add_waiting (g : G) (s : String) : ∀ (L : List String), L.Nodup →
    (L.flatMap (succs g)).count s + (edges g).countP (fun e => e.2 = s ∧ e.1 ∉ L) = npred g s
  | [], _ => by simp [npred_eq]
  | p :: L, h => by
    obtain ⟨hp, hL⟩ := List.nodup_cons.mp h
    -- processing `p` counts down exactly those waiting registrations of `s` that come from `p`
    have split : (succs g p).count s + (edges g).countP (fun e => e.2 = s ∧ e.1 ∉ p :: L) =
        (edges g).countP (fun e => e.2 = s ∧ e.1 ∉ L) := by
      rw [count_succs, List.countP_eq_countP_filter_add (edges g) (fun e => e.2 = s ∧ e.1 ∉ L) (fun e => e.1 = p),
        List.countP_filter, List.countP_filter]
      congr 1 <;> refine List.countP_congr fun e _ => ?_
      · simp only [Bool.and_eq_true, decide_eq_true_eq]
        exact ⟨fun ⟨h1, h2⟩ => ⟨⟨h2, h1 ▸ hp⟩, h1⟩, fun ⟨⟨h2, _⟩, h1⟩ => ⟨h1, h2⟩⟩
      · simp only [List.mem_cons, not_or, Bool.and_eq_true, decide_eq_true_eq, Bool.not_eq_true', decide_eq_false_iff_not]
        exact ⟨fun ⟨h2, h1, h3⟩ => ⟨⟨h2, h3⟩, h1⟩, fun ⟨⟨h2, h3⟩, h1⟩ => ⟨h2, h1, h3⟩⟩
    rw [List.flatMap_cons, List.count_append, Nat.add_right_comm, split, Nat.add_comm]
    exact count_add_waiting g s L hL

def cv (cnt : Dict Nat) (s : String) : Nat := (cnt.get? s).getD 0

/-- the innermost step of `done(*group)`, for one successor `s` -/
def dec (st : Dict Nat × List String) (s : String) : Dict Nat × List String :=
  (st.1.set s (cv st.1 s - 1), if cv st.1 s - 1 = 0 then st.2 ++ [s] else st.2)

theorem doneGroup_eq (g : G) (cnt : Dict Nat) (group : List String) :
    doneGroup g cnt group = (group.flatMap (succs g)).foldl dec (cnt, []) := by
  unfold doneGroup
  rw [List.foldl_flatMap]
  rfl

theorem cv_dec (st : Dict Nat × List String) (d s : String) :
    cv (dec st d).1 s = if d = s then cv st.1 d - 1 else cv st.1 s := by
  simp only [dec, cv, Dict.get?_set]
  split <;> rfl

theorem mem_dec (st : Dict Nat × List String) (d s : String) :
    s ∈ (dec st d).2 ↔ s ∈ st.2 ∨ (s = d ∧ cv st.1 d - 1 = 0) := by
  simp only [dec]
  split <;> simp [*]

theorem cv_foldl_dec (cnt : Dict Nat) (s : String) (ds : List String) :
    cv (ds.foldl dec (cnt, [])).1 s = cv cnt s - ds.count s := by
  induction ds using List.reverseRecOn with
  | nil => rfl
  | append_singleton ds d ih =>
    rw [List.foldl_concat, cv_dec, List.count_append, List.count_singleton]
    by_cases h : d = s
    · subst h
      simp only [if_true, ih, beq_self_eq_true, Nat.sub_sub]
    · simp [h, ih]

theorem mem_foldl_dec (cnt : Dict Nat) (s : String) (ds : List String) :
    s ∈ (ds.foldl dec (cnt, [])).2 ↔ s ∈ ds ∧ cv cnt s ≤ ds.count s := by
  induction ds using List.reverseRecOn with
  | nil => simp
  | append_singleton ds d ih =>
    rw [List.foldl_concat, mem_dec, ih, cv_foldl_dec, Nat.sub_sub, Nat.sub_eq_zero_iff_le, List.mem_append, List.mem_singleton,
      List.count_append, List.count_singleton]
    by_cases h : s = d
    · subst h
      simp only [beq_self_eq_true, if_true, or_true, true_and]
      exact ⟨fun h => h.elim (fun h => Nat.le_succ_of_le h.2) id, Or.inr⟩
    · simp [h, Ne.symm h]

theorem nodup_foldl_dec (cnt : Dict Nat) (ds : List String) (hle : ∀ s ∈ ds, ds.count s ≤ cv cnt s) :
    (ds.foldl dec (cnt, [])).2.Nodup := by
  induction ds using List.reverseRecOn with
  | nil => exact List.nodup_nil
  | append_singleton ds d ih =>
    have ih := ih fun s hs => Nat.le_trans (by simp) (hle s (List.mem_append_left _ hs))
    simp only [List.foldl_concat, dec]
    split
    · refine List.concat_eq_append ▸ ih.concat fun hd => ?_
      -- `d` was collected before, so `ds` alone uses its counter up; with this occurrence the counter would underflow
      have hall := hle d (by simp)
      simp only [List.count_append, List.count_singleton, beq_self_eq_true, if_true] at hall
      have hbefore := ((mem_foldl_dec cnt d ds).mp hd).2
      omega
    · exact ih

/-- `todo` continues `done` in such a way that every node comes after all its registered predecessors -/
def respects (g : G) : List String → List String → Bool
  | _, [] => true
  | done, s :: rest => ((edges g).all fun e => e.2 != s || done.contains e.1) && respects g (done ++ [s]) rest

theorem respects_cons {g : G} {done rest : List String} {s : String} :
    respects g done (s :: rest) = true ↔ (∀ p, (p, s) ∈ edges g → p ∈ done) ∧ respects g (done ++ [s]) rest = true := by
  simp only [respects, Bool.and_eq_true, List.all_eq_true, Bool.or_eq_true, bne_iff_ne, ne_eq, List.contains_iff_mem, Prod.forall]
  refine and_congr_left fun _ => ⟨fun h p hp => (h p s hp).resolve_left fun hne => hne rfl, fun h p n hp => ?_⟩
  by_cases e : n = s
  · exact Or.inr (h p (e ▸ hp))
  · exact Or.inl e

theorem respects_append (g : G) : ∀ (a b done : List String),
    respects g done (a ++ b) = (respects g done a && respects g (done ++ a) b)
  | [], b, done => by simp [respects]
  | s :: a, b, done => by
    simp only [List.cons_append, respects, respects_append g a b (done ++ [s]), List.append_assoc, List.cons_append,
      List.nil_append, Bool.and_assoc]

theorem respects_iff {g : G} : ∀ {todo done : List String}, respects g done todo = true ↔
    ∀ pre s post, todo = pre ++ s :: post → ∀ p, (p, s) ∈ edges g → p ∈ done ++ pre
  | [], _ => by simp [respects]
  | s :: rest, done => by
    rw [respects_cons, respects_iff]
    constructor
    · rintro ⟨h1, h2⟩ pre s' post hcut p hp
      rcases List.cons_eq_append_iff.mp hcut with ⟨rfl, e⟩ | ⟨pre', rfl, e⟩
      · cases e; simpa using h1 p hp
      · simpa using h2 pre' s' post e p hp
    · intro h
      exact ⟨fun p hp => by simpa using h [] s rest rfl p hp,
        fun pre s' post e p hp => by simpa using h (s :: pre) s' post (by rw [e]; rfl) p hp⟩

theorem respects_pairwise (g : G) : ∀ (todo done : List String), respects g done todo = true → (done ++ todo).Nodup →
    todo.Pairwise (fun a b => (b, a) ∉ edges g)
  | [], _, _, _ => List.Pairwise.nil
  | s :: rest, done, hr, hnd => by
    obtain ⟨hs, hrest⟩ := respects_cons.mp hr
    refine List.Pairwise.cons (fun b hb he => ?_) (respects_pairwise g rest (done ++ [s]) hrest (by simpa using hnd))
    exact List.disjoint_of_nodup_append hnd (hs b he) (List.mem_cons_of_mem _ hb)

/-- the loop invariant: `acc` has been output, the group `ready` goes next -/
structure Inv (g : G) (cnt : Dict Nat) (ready acc : List String) : Prop where
  nodup : (acc ++ ready).Nodup
  sub : ∀ x ∈ acc ++ ready, x ∈ nodes g
  cnt_eq : ∀ s ∈ nodes g, cv cnt s = npred g s - (acc.flatMap (succs g)).count s
  zero_iff : ∀ s ∈ nodes g, (s ∈ acc ++ ready ↔ cv cnt s = 0)
  sorted : respects g [] acc = true

theorem Inv.mem_iff {g : G} {cnt : Dict Nat} {ready acc : List String} (h : Inv g cnt ready acc) {s : String}
    (hs : s ∈ nodes g) : s ∈ acc ++ ready ↔ ∀ p, (p, s) ∈ edges g → p ∈ acc := by
  have := count_add_waiting g s acc h.nodup.of_append_left
  rw [h.zero_iff s hs, h.cnt_eq s hs, ← this, Nat.add_sub_cancel_left, List.countP_eq_zero]
  simp only [decide_eq_true_eq, not_and, not_not, Prod.forall]
  exact ⟨fun h p hp => h p s hp rfl, fun h p n hp e => h p (e ▸ hp)⟩

theorem Inv.final {g : G} {cnt : Dict Nat} {out : List String} (h : Inv g cnt [] out) :
    out.Nodup ∧ (∀ x ∈ out, x ∈ nodes g) ∧ respects g [] out = true ∧
      ∀ s ∈ nodes g, (∀ p, (p, s) ∈ edges g → p ∈ out) → s ∈ out :=
  have e := List.append_nil out
  ⟨e ▸ h.nodup, e ▸ h.sub, h.sorted, fun _ hs hp => e ▸ (h.mem_iff hs).mpr hp⟩

theorem inv_step {g : G} {cnt : Dict Nat} {ready acc : List String} (h : Inv g cnt ready acc) :
    Inv g (doneGroup g cnt ready).1 (doneGroup g cnt ready).2 (acc ++ ready) := by
  rw [doneGroup_eq]
  have hnode : ∀ s ∈ ready.flatMap (succs g), s ∈ nodes g := fun s hs =>
    have ⟨_, _, hp⟩ := List.mem_flatMap.mp hs
    (edge_mem_nodes (mem_succs.mp hp)).2
  -- no counter underflows
  have hle : ∀ s ∈ ready.flatMap (succs g), (ready.flatMap (succs g)).count s ≤ cv cnt s := fun s hs => by
    rw [h.cnt_eq s (hnode s hs), ← count_add_waiting g s (acc ++ ready) h.nodup, List.flatMap_append, List.count_append,
      Nat.add_assoc, Nat.add_sub_cancel_left]
    exact Nat.le_add_right _ _
  constructor
  case nodup =>
    refine List.nodup_append.mpr ⟨h.nodup, nodup_foldl_dec cnt _ hle, fun s hs _ hnew e => ?_⟩
    -- a node that is ready or output has counter 0, so (no underflow) it is not a successor of the group
    subst e
    have hm := ((mem_foldl_dec cnt s _).mp hnew).1
    have hzero : cv cnt s = 0 := (h.zero_iff s (hnode s hm)).mp hs
    have hpos : 0 < (ready.flatMap (succs g)).count s := List.count_pos_iff.mpr hm
    have hbound := hle s hm
    omega
  case sub =>
    intro x hx
    rcases List.mem_append.mp hx with hx | hx
    · exact h.sub x hx
    · exact hnode x ((mem_foldl_dec cnt x _).mp hx).1
  case cnt_eq =>
    intro s hs
    rw [cv_foldl_dec, h.cnt_eq s hs, List.flatMap_append, List.count_append, Nat.sub_sub]
  case zero_iff =>
    intro s hs
    rw [cv_foldl_dec, List.mem_append, h.zero_iff s hs, mem_foldl_dec, ← List.count_pos_iff, Nat.sub_eq_zero_iff_le]
    omega
  case sorted =>
    -- the group goes after everything processed so far, and every member has all its predecessors there
    rw [respects_append, h.sorted, Bool.true_and, List.nil_append, respects_iff]
    intro pre s post e p hp
    exact List.mem_append_left _ ((h.mem_iff (h.sub s (by simp [e]))).mp (by simp [e]) p hp)

theorem inv_init (g : G) : Inv g ((nodes g).map fun n => (n, npred g n)) ((nodes g).filter fun n => npred g n = 0) [] := by
  refine ⟨(nodes_nodup g).filter _, fun x hx => (List.mem_filter.mp hx).1, fun s hs => ?_, fun s hs => ?_, rfl⟩
  · simp [cv, Dict.get?_map_pair (npred g) (nodes g) s hs]
  · simp [cv, Dict.get?_map_pair (npred g) (nodes g) s hs, hs]

theorem loop_ends (g : G) : ∀ (fuel : Nat) (cnt : Dict Nat) (ready acc : List String), Inv g cnt ready acc →
    (nodes g).length < acc.length + fuel → ∃ cnt', Inv g cnt' [] (loop g fuel cnt ready acc)
  | 0, cnt, ready, acc, h, hf => by
    -- the output, duplicate-free and made of nodes, is never longer than the node list
    have := h.nodup.of_append_left.length_le_of_subset fun x hx => h.sub x (List.mem_append_left _ hx)
    omega
  | fuel + 1, cnt, ready, acc, h, hf => by
    simp only [loop]
    split
    · next he => exact ⟨cnt, List.isEmpty_iff.mp he ▸ h⟩
    · next he =>
      -- a round with something ready outputs at least one node
      have := List.length_pos_iff.mpr fun e => he (List.isEmpty_iff.mpr e)
      exact loop_ends g fuel _ _ _ (inv_step h) (by rw [List.length_append]; omega)

theorem staticOrder_final (g : G) : ∃ cnt out, Inv g cnt [] out ∧
    staticOrder g = if out.length = (nodes g).length then some out else none :=
  have ⟨cnt, h⟩ := loop_ends g ((nodes g).length + 1) _ _ _ (inv_init g) (by simp)
  ⟨cnt, _, h, rfl⟩

theorem staticOrder_some {g : G} {out : List String} (h : staticOrder g = some out) :
    out.length = (nodes g).length ∧ out.Nodup ∧ (∀ x ∈ out, x ∈ nodes g) ∧ respects g [] out = true := by
  obtain ⟨_, out', hfin, hso⟩ := staticOrder_final g
  obtain ⟨h1, h2, h3, _⟩ := hfin.final
  rw [hso] at h
  split at h
  · next hl => cases h; exact ⟨hl, h1, h2, h3⟩
  · cases h

/-- **`static_order()`**: whatever it returns lists nodes of the graph, each at most once, each after all its registered
    predecessors -/
theorem staticOrder_spec (g : G) (out : List String) (h : staticOrder g = some out) :
    out.Nodup ∧ (∀ x ∈ out, x ∈ nodes g) ∧ respects g [] out = true :=
  (staticOrder_some h).2

/-- … and it lists ALL nodes: a permutation of the node list -/
theorem staticOrder_perm (g : G) (out : List String) (h : staticOrder g = some out) : out.Perm (nodes g) :=
  have ⟨hl, h1, h2, _⟩ := staticOrder_some h
  (List.subperm_of_subset h1 h2).perm_of_length_le (Nat.le_of_eq hl.symm)

/-- `a` is registered (transitively) as a predecessor of `b` -/
inductive Before (g : G) : String → String → Prop
  | edge {a b} : (a, b) ∈ edges g → Before g a b
  | trans {a b c} : Before g a b → Before g b c → Before g a c

theorem pos_of_respects (g : G) (out : List String) (hnd : out.Nodup) (hr : respects g [] out = true)
    (hall : ∀ p s, (p, s) ∈ edges g → s ∈ out) : ∀ a b, Before g a b → out.idxOf a < out.idxOf b := by
  intro a b hab
  induction hab with
  | @edge a b he =>
    obtain ⟨pre, post, rfl⟩ := List.append_of_mem (hall a b he)
    have ha : a ∈ pre := by simpa using respects_iff.mp hr pre b post rfl a he
    have hb : b ∉ pre := fun hb => List.disjoint_of_nodup_append hnd hb List.mem_cons_self
    rw [List.idxOf_append_of_mem ha, List.idxOf_append_of_notMem hb, List.idxOf_cons_self]
    exact List.idxOf_lt_length_iff.mpr ha
  | trans _ _ ih1 ih2 => exact Nat.lt_trans ih1 ih2

theorem staticOrder_none_of_cycle (g : G) (a : String) (hc : Before g a a) : staticOrder g = none := by
  cases h : staticOrder g with
  | none => rfl
  | some out =>
    have ⟨h1, _, h3⟩ := staticOrder_spec g out h
    have hall : ∀ p s, (p, s) ∈ edges g → s ∈ out := fun _ _ he => (staticOrder_perm g out h).mem_iff.mpr (edge_mem_nodes he).2
    exact absurd (pos_of_respects g out h1 h3 hall a a hc) (Nat.lt_irrefl _)

/-- a walk backwards along the registrations, inside a set `W` of nodes (all from the list `l`) each of which has a predecessor
    in `W`, meets a node it has passed: `cur` is where the walk stands, `vis` what it has passed, and it cannot pass more nodes
    than `l` has -/
theorem cycle_of_walk (g : G) (W : String → Prop) (l : List String) (hW : ∀ s, W s → s ∈ l)
    (hpred : ∀ s, W s → ∃ p, W p ∧ (p, s) ∈ edges g) (cur : String) (vis : List String) (hc : W cur) (hnd : (cur :: vis).Nodup)
    (hsub : ∀ v ∈ vis, v ∈ l) (hb : ∀ v ∈ vis, Before g cur v) : ∃ a, Before g a a := by
  obtain ⟨p, hp, he⟩ := hpred cur hc
  have hbp : ∀ v ∈ cur :: vis, Before g p v :=
    List.forall_mem_cons.mpr ⟨.edge he, fun v hv => .trans (.edge he) (hb v hv)⟩
  have hsub' : ∀ v ∈ cur :: vis, v ∈ l := List.forall_mem_cons.mpr ⟨hW cur hc, hsub⟩
  by_cases hm : p ∈ cur :: vis
  · exact ⟨p, hbp p hm⟩
  · exact cycle_of_walk g W l hW hpred p (cur :: vis) hp (List.nodup_cons.mpr ⟨hm, hnd⟩) hsub' hbp
termination_by l.length - vis.length
decreasing_by exact Nat.sub_lt_sub_left (hnd.length_le_of_subset hsub') (Nat.lt_succ_self _)

theorem cycle_of_staticOrder_none (g : G) (h : staticOrder g = none) : ∃ a, Before g a a := by
  obtain ⟨_, out, hfin, hso⟩ := staticOrder_final g
  obtain ⟨hnd, hsub, _, hclosed⟩ := hfin.final
  -- the loop's output is shorter than the node list, so some node was not output
  have hlen : out.length ≠ (nodes g).length := fun e => by simp [hso, e] at h
  obtain ⟨s0, hs0, hs0n⟩ : ∃ s ∈ nodes g, s ∉ out := by
    by_contra hall
    have hall : nodes g ⊆ out := fun s hs => by_contra fun hn => hall ⟨s, hs, hn⟩
    exact hlen (Nat.le_antisymm (hnd.length_le_of_subset hsub) ((nodes_nodup g).length_le_of_subset hall))
  -- and every such node still waits for a predecessor that was not output either
  refine cycle_of_walk g (fun s => s ∈ nodes g ∧ s ∉ out) (nodes g) (fun _ h => h.1) (fun s ⟨hs, hn⟩ => ?_)
    s0 [] ⟨hs0, hs0n⟩ (List.nodup_singleton s0) nofun nofun
  by_contra hno
  exact hn (hclosed s hs fun p he => by_contra fun hp => hno ⟨p, ⟨(edge_mem_nodes he).1, hp⟩, he⟩)

/-- `static_order()` fails EXACTLY on the graphs with a cycle -/
theorem staticOrder_none_iff (g : G) : staticOrder g = none ↔ ∃ a, Before g a a :=
  ⟨cycle_of_staticOrder_none g, fun ⟨a, h⟩ => staticOrder_none_of_cycle g a h⟩

end Graph

/-- the graph handed to the sorter for a dictionary whose entries depend on other entries (`_topological_sort` of an aggregation
    dictionary, the local variables of a routine): the predecessors of a key are its dependencies that are keys themselves -/
def depGraph {α : Type} (deps : α → List String) (d : Dict α) : Graph.G :=
  d.map fun kv => (kv.1, ((deps kv.2).filter d.contains).eraseDups)

theorem mem_edges_depGraph {α : Type} {deps : α → List String} {d : Dict α} {p n : String} :
    (p, n) ∈ Graph.edges (depGraph deps d) ↔ ∃ v, (n, v) ∈ d ∧ p ∈ deps v ∧ d.contains p = true := by
  simp only [Graph.mem_edges, depGraph, List.mem_map, Prod.mk.injEq, Prod.exists]
  constructor
  · rintro ⟨_, ⟨_, v, h, rfl, rfl⟩, hp⟩
    exact ⟨v, h, by simpa using hp⟩
  · rintro ⟨v, h, hp⟩
    exact ⟨_, ⟨n, v, h, rfl, rfl⟩, by simpa using hp⟩

theorem contains_of_mem_nodes_depGraph {α : Type} {deps : α → List String} {d : Dict α} {x : String}
    (h : x ∈ Graph.nodes (depGraph deps d)) : d.contains x = true := by
  rcases Graph.mem_nodes.mp h with ⟨_, hk⟩ | ⟨n, he⟩
  · obtain ⟨kv, hkv, e⟩ := List.mem_map.mp hk
    exact Dict.contains_of_mem d x kv.2 ((Prod.mk.inj e).1 ▸ hkv)
  · obtain ⟨_, _, _, hc⟩ := mem_edges_depGraph.mp he
    exact hc

theorem staticOrder_depGraph {α : Type} {deps : α → List String} {d : Dict α} {order : List String}
    (h : Graph.staticOrder (depGraph deps d) = some order) :
    order.Nodup ∧ (∀ k ∈ order, d.contains k = true) ∧
      ∀ pre k post, order = pre ++ k :: post → ∀ v, (k, v) ∈ d → ∀ u ∈ deps v, d.contains u = true → u ∈ pre :=
  have ⟨h1, h2, h3⟩ := Graph.staticOrder_spec _ order h
  ⟨h1, fun k hk => contains_of_mem_nodes_depGraph (h2 k hk), fun pre k post ho v hv u hu hc => by
    simpa using Graph.respects_iff.mp h3 pre k post ho u (mem_edges_depGraph.mpr ⟨v, hv, hu, hc⟩)⟩

end Bartiq
