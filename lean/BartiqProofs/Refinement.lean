/-
  `_compile` refines the value-level evaluator `denoteV` (layer B of DESIGN.md §5):
  evaluating the compiled tree at a point = evaluating the source bottom-up at that point.
  `denoteV` walks the hierarchy as `compile` does, so the proof is one rewrite per step of the walk: each value-level operation,
  applied to the VALUES of dictionaries, ports, parameter trees (`Dict.mapVal (eval A ρ)`, `PTreeG.map (eval A ρ)`), gives the
  values of what the expression-level operation returns.  The only step that is not bookkeeping is the substitution lemma.
-/
import BartiqModel.Denote
import BartiqProofs.CompileSpec
import BartiqProofs.ExprLemmas
import BartiqProofs.ResourceLemmas
namespace Bartiq
open Expr

variable {V : Type}

def PTreeG.map {α β : Type} (f : α → β) (t : PTreeG α) : PTreeG β :=
  { self := t.self.mapVal f, kids := t.kids.mapVal (Dict.mapVal f) }

def PUpdateG.map {α β : Type} (f : α → β) (u : PUpdateG α) : PUpdateG β := List.map (fun e => (e.1, e.2.1, f e.2.2)) u

theorem PTreeG.map_self {α β : Type} (f : α → β) (t : PTreeG α) : (t.map f).self = t.self.mapVal f := rfl

/-- the inputs `compileChildren` / `denoteChildrenV` hand to a child -/
theorem PTreeG.inputs_map {α β : Type} (f : α → β) (t : PTreeG α) (c : String) :
    ((t.map f).kids.get? c).getD [] = ((t.kids.get? c).getD []).mapVal f := by
  simp only [PTreeG.map, Dict.get?_mapVal]
  cases t.kids.get? c <;> rfl

theorem PTreeG.mergeUpd_map {α β : Type} (f : α → β) (t : PTreeG α) (u : PUpdateG α) :
    (t.map f).mergeUpd (PUpdateG.map f u) = (t.mergeUpd u).map f := by
  unfold PTreeG.mergeUpd PUpdateG.map
  rw [List.foldl_map]
  refine List.foldl_hom (PTreeG.map f) fun t ⟨k, x, v⟩ => ?_
  cases k with
  | none => simp only [PTreeG.map, Dict.mapVal_set]
  | some c =>
    simp only [PTreeG.map, Dict.get?_mapVal]
    cases t.kids.get? c <;> simp only [Option.map, Dict.mapVal_set]

theorem paramTreeFromSizes_map {α β : Type} (f : α → β) (cm : List (String × Endpoint)) (sizes : Dict α) :
    paramTreeFromSizes cm (sizes.mapVal f) = (paramTreeFromSizes cm sizes).map (PUpdateG.map f) := by
  unfold paramTreeFromSizes PUpdateG.map
  apply mapM_map
  intro st
  simp only [Dict.get?_mapVal]
  cases sizes.get? st.1 <;> rfl

theorem exceptToOption_map {ε α β : Type} (g : α → β) (x : Except ε α) : exceptToOption (x.map g) = (exceptToOption x).map g := by
  cases x <;> rfl

section
variable (A : Alg V) (ρ : Env V)

theorem scopeOf_mapVal (d : Dict Expr) : scopeOf ρ (d.mapVal (eval A ρ)) = under A ρ d.get? := by
  funext x
  simp only [scopeOf, under, Dict.get?_mapVal]
  cases d.get? x <;> rfl

theorem eval_subst_instV (d : Dict Expr) (e : Expr) (h : binders e = []) :
    eval A ρ (Expr.subst d e) = instV A ρ (d.mapVal (eval A ρ)) e := by
  unfold instV
  rw [scopeOf_mapVal, eval_subst A d ρ e (noCapture_of_no_binders h)]

theorem localsStep_mapVal {locals : Dict Expr} (hb : ∀ kv ∈ locals, binders kv.2 = []) (st : Dict Expr × Dict Expr) (v : String) :
    localsStep (instV A ρ) locals (st.map (Dict.mapVal (eval A ρ)) (Dict.mapVal (eval A ρ))) v =
      (localsStep Expr.subst locals st v).map (Dict.mapVal (eval A ρ)) (Dict.mapVal (eval A ρ)) := by
  unfold localsStep
  cases h : locals.get? v with
  | none => rfl
  | some e => simp only [Prod.map, Dict.mapVal_set, eval_subst_instV A ρ st.2 e (hb (v, e) (Dict.get?_some_mem locals v e h))]

theorem localsV_mapVal {locals inputs lv : Dict Expr} (hb : ∀ kv ∈ locals, binders kv.2 = [])
    (h : compileLocalVariables locals inputs = .ok lv) :
    localsV A ρ locals (inputs.mapVal (eval A ρ)) = some (lv.mapVal (eval A ρ)) := by
  obtain ⟨order, ho, rfl⟩ := compileLocalVariables_ok h
  rw [localsV, ho, Option.map_some]
  exact congrArg (fun st => some st.1)
    (List.foldl_hom (Prod.map (Dict.mapVal (eval A ρ)) (Dict.mapVal (eval A ρ))) (init := ([], inputs)) (localsStep_mapVal A ρ hb))

theorem linksV_mapVal (d : Dict Expr) (lks : Dict (List (String × String))) :
    linksV ρ (d.mapVal (eval A ρ)) lks = PUpdateG.map (eval A ρ) (compileLinkedParams d lks) := by
  unfold compileLinkedParams linksV PUpdateG.map
  rw [List.map_flatMap]
  congr 1; funext kv
  rw [List.map_map]
  congr 1; funext t
  have := eval_subst_instV A ρ d (.sym kv.1) rfl
  simp only [instV, eval] at this
  simp only [Function.comp, this]

theorem pmInitV_mapVal (lv inputs : Dict Expr) (lks : Dict (List (String × String))) (ch : List Routine) :
    pmInitV ρ (lv.mapVal (eval A ρ)) (inputs.mapVal (eval A ρ)) lks ch = (pmInit lv inputs lks ch).map (eval A ρ) := by
  unfold pmInit pmInitV
  rw [← PTreeG.mergeUpd_map, ← linksV_mapVal, Dict.mapVal_merge, PTreeG.map, Dict.mapVal_merge]
  simp only [Dict.mapVal, List.map_map, Function.comp_def, List.map_nil]

theorem portValsV_mapVal (d : Dict Expr) {ps : List Port} (hb : ∀ p ∈ ps, binders p.size = []) :
    portValsV A ρ (d.mapVal (eval A ρ)) ps = (evaluatePorts ps d).map fun p => (p.name, p.dir, eval A ρ p.size) := by
  unfold evaluatePorts portValsV
  rw [List.map_map]
  exact List.map_congr_left fun p hp => by simp only [Function.comp, eval_subst_instV A ρ d p.size (hb p hp)]

theorem paramTreeFromCompiledPorts_mapVal {cm : List (String × Endpoint)} {ports : List Port} {upd : PUpdate}
    (h : paramTreeFromCompiledPorts cm ports = .ok upd) :
    exceptToOption (paramTreeFromSizes cm (sizesOfV (ports.map fun p => (p.name, p.dir, eval A ρ p.size)))) =
      some (PUpdateG.map (eval A ρ) upd) := by
  have : sizesOfV (ports.map fun p => (p.name, p.dir, eval A ρ p.size)) = (portSizes ports).mapVal (eval A ρ) := by
    simp only [sizesOfV, portSizes, Dict.mapVal, List.map_map, Function.comp_def]
  rw [this, paramTreeFromSizes_map, ← paramTreeFromCompiledPorts, h]
  rfl

theorem evalTree_eq (c : CRoutine) : evalTree A ρ c =
    { name := c.name, ports := c.ports.map fun p => (p.name, p.dir, eval A ρ p.size),
      resources := c.resources.map fun r => (r.name, r.ty, eval A ρ r.value), children := evalTreeList A ρ c.children } := by
  obtain ⟨_, _, _, _, _, _, _, _, _, _⟩ := c; rfl

theorem evalTreeList_eq_map : ∀ (cs : List CRoutine), evalTreeList A ρ cs = cs.map (evalTree A ρ)
  | [] => rfl
  | c :: cs => by rw [evalTreeList, evalTreeList_eq_map cs, List.map_cons]

theorem childrenVariablesV_evalTreeList (cs : List CRoutine) :
    childrenVariablesV (evalTreeList A ρ cs) = (childrenVariables cs).mapVal (eval A ρ) := by
  unfold childrenVariables childrenVariablesV
  rw [Dict.mapVal_ofList, evalTreeList_eq_map]
  congr 1
  simp only [Dict.mapVal, List.map_flatMap, List.flatMap_map]
  congr 1; funext c
  simp only [evalTree_eq, List.map_map, Function.comp_def]

theorem sigsV_evalTreeList (cs : List CRoutine) : sigsV (evalTreeList A ρ cs) = childSigs cs := by
  unfold childSigs sigsV
  rw [evalTreeList_eq_map, List.map_map]
  exact List.map_congr_left fun c _ => by
    simp only [Function.comp, evalTree_eq, List.map_map, Function.comp_def]

theorem resources_instV_mapVal (d : Dict Expr) {rs : List Resource} (hb : ∀ r ∈ rs, binders r.value = []) :
    rs.map (fun (r : Resource) => (r.name, r.ty, instV A ρ (d.mapVal (eval A ρ)) r.value)) =
      (evaluateResources rs d).map fun r => (r.name, r.ty, eval A ρ r.value) := by
  unfold evaluateResources
  rw [List.map_map]
  exact List.map_congr_left fun r hr => by simp only [Function.comp, eval_subst_instV A ρ d r.value (hb r hr)]

/-! Repetition wrappers: the closed forms that `get_sum` / `get_prod` return for a `plainSeqB` sequence bind no iterator, so
    `eval_subst_instV` applies to a wrapper's resources too. -/

theorem getSum_getProd_binders (cnt x : Expr) (sq : Seq) (hs : plainSeqB sq = true) (hc : binders cnt = []) (hx : binders x = []) :
    (∀ e, sq.getSum cnt x = .ok e → binders e = []) ∧ (∀ e, sq.getProd cnt x = .ok e → binders e = []) := by
  cases sq with
  | constant m =>
    simp only [plainSeqB, List.isEmpty_iff] at hs
    constructor <;> intro e h <;> cases Except.pure_eq_ok.mp h <;> simp [binders, hs, hc, hx]
  | arithmetic i d =>
    simp only [plainSeqB, Bool.and_eq_true, List.isEmpty_iff] at hs
    constructor <;> intro e h <;> cases Except.pure_eq_ok.mp h <;> simp [binders, bindersList, hs.1, hs.2, hc, hx]
  | geometric r =>
    simp only [plainSeqB, List.isEmpty_iff] at hs
    constructor <;> intro e h <;> cases Except.pure_eq_ok.mp h <;> simp [binders, hs, hc, hx]
  | closedForm _ _ _ => cases hs
  | custom _ _ => cases hs

theorem processRepeatedResources_binders {rp : Repetition} {rs rs' : List Resource} {sigs : List (String × List (String × ResTy))}
    (hc : binders rp.count = []) (hs : plainSeqB rp.seq = true) (h : processRepeatedResources rp rs sigs = .ok rs') :
    ∀ r ∈ rs', binders r.value = [] := by
  obtain ⟨cn, cr, _, _, h⟩ := processRepeatedResources_ok h
  refine foldlM_except_inv (fun acc => ∀ r ∈ acc, binders r.value = []) _ (fun acc nt acc' hacc hstep => ?_) cr [] rs' nofun h
  rcases repResStep_ok hstep with ⟨v, hv, rfl⟩ | ⟨_, _, rfl⟩
  · intro r hr
    rcases Resource.mem_set hr with hr | rfl
    · exact hacc r hr
    · have hb := getSum_getProd_binders rp.count (.sym (cn ++ "." ++ nt.1)) rp.seq hs hc rfl
      exact hv.elim (fun h => hb.1 v h.2) fun h => hb.2 v h.2
  · exact hacc

theorem repStep_resources {rep rep' : Option Repetition} {rs res : List Resource} {ccs : List CRoutine} {d : Dict Expr}
    (h : repStep rep rs ccs d = .ok (res, rep')) (hrep : plainRepB rep = true) (hbr : ∀ r ∈ rs, binders r.value = []) :
    repResourcesV rep rs (sigsV (evalTreeList A ρ ccs)) = some res ∧ ∀ r ∈ res, binders r.value = [] := by
  rcases repStep_ok h with ⟨rfl, rfl, _⟩ | ⟨rp, _, rfl, hres, _⟩
  · exact ⟨rfl, hbr⟩
  · simp only [plainRepB, Bool.and_eq_true, List.isEmpty_iff] at hrep
    exact ⟨by rw [repResourcesV, sigsV_evalTreeList, hres]; rfl, processRepeatedResources_binders hrep.1 hrep.2 hres⟩

theorem plainB_node {r : Routine} (h : plainB r = true) :
    (∀ kv ∈ r.localVars, binders kv.2 = []) ∧ (∀ p ∈ r.ports, binders p.size = []) ∧ (∀ x ∈ r.resources, binders x.value = []) ∧
      plainRepB r.rep = true ∧ plainListB r.children = true := by
  obtain ⟨_, _, _, _, _, _, _, _, _, _, _, _⟩ := r
  simpa only [plainB, Bool.and_eq_true, List.all_eq_true, List.isEmpty_iff, and_assoc] using h

end

mutual
/-- **Layer B, node**: the values of the compiled node (and everything below it) at any point ρ are the values the
    value-level evaluator computes from the source, handing down the values of the inputs. -/
theorem compile_refines_denoteV (A : Alg V) (ρ : Env V) (C : Comparator) :
    ∀ (r : Routine) (σ : Dict Expr) (path : String) (c : CRoutine), compile C σ path r = .ok c → plainB r = true →
      denoteV A ρ (σ.mapVal (eval A ρ)) r = some (evalTree A ρ c)
  | ⟨name, ty, ips, lvs, lks, ps, rs, cs, rep, cons, ch, ord⟩, σ, path, c, h, hp => by
    obtain ⟨t, rfl⟩ := compile_ok_iff.mp h
    obtain ⟨hbl, hbp, hbr, hrep, hpc⟩ := plainB_node hp
    have hbp' (ds : List Dir) : ∀ p ∈ Port.portsOf ps ds, binders p.size = [] := fun p hp => hbp p (Port.mem_portsOf.mp hp).1
    obtain ⟨hres, hbres⟩ := repStep_resources A ρ t.hrep hrep hbr
    -- in the order of the walk: local variables, initial tree, non-output ports and what they send down, children, final scope,
    -- resources, output ports
    simp only [denoteV, localsV_mapVal A ρ hbl t.hlv, Option.bind_some, pmInitV_mapVal, PTreeG.map_self,
      portValsV_mapVal A ρ _ (hbp' _), paramTreeFromCompiledPorts_mapVal A ρ t.hupd, PTreeG.mergeUpd_map,
      compileChildren_refines_denoteV A ρ C ch cs path _ _ _ t.hch hpc, childrenVariablesV_evalTreeList, ← Dict.mapVal_merge, hres,
      resources_instV_mapVal A ρ _ hbres]
    simp only [evalTree, CompileTrace.result, finishNode, List.map_append]
theorem compileChildren_refines_denoteV (A : Alg V) (ρ : Env V) (C : Comparator) :
    ∀ (ch : List Routine) (conns : List (Endpoint × Endpoint)) (path : String) (pm pm' : PTree) (ccs : List CRoutine),
      compileChildren C conns path pm ch = .ok (pm', ccs) → plainListB ch = true →
      denoteChildrenV A ρ conns (pm.map (eval A ρ)) ch = some (pm'.map (eval A ρ), evalTreeList A ρ ccs)
  | [], _, _, pm, pm', ccs, h, _ => by
    obtain ⟨rfl, rfl⟩ := compileChildren_nil h
    rfl
  | c :: cs, conns, path, pm, pm', ccs, h, hp => by
    obtain ⟨cc, upd, ccs', hcc, hupd, hrest, rfl⟩ := compileChildren_cons_iff.mp h
    simp only [plainListB, Bool.and_eq_true] at hp
    simp only [denoteChildrenV, PTreeG.inputs_map, compile_refines_denoteV A ρ C c _ _ cc hcc hp.1, Option.bind_some, evalTree_eq,
      paramTreeFromCompiledPorts_mapVal A ρ hupd, PTreeG.mergeUpd_map,
      compileChildren_refines_denoteV A ρ C cs conns path _ pm' ccs' hrest hp.2, evalTreeList]
end

end Bartiq
