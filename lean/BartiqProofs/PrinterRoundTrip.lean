/-
  What the model printer writes is a phrase of the standard grammar denoting the tree that was printed; with the parser
  theorem this gives print-then-parse = identity on surface trees.
-/
import BartiqModel.Printer
import BartiqProofs.ParserComplete
namespace Bartiq
open Tok

/-- the phrase kind of a precedence level (`SExpr.level`, 1 … 5; 0 also goes to `expr`, so that `lower` needs no side condition) -/
def kindOf : Nat → K
  | 0 | 1 => .expr
  | 2 => .term
  | 3 => .factor
  | 4 => .power
  | _ => .atom

mutual
/-- well-formed surface trees: non-negative literals (a sign is a `neg` node), known operators -/
def wfs : SExpr → Bool
  | .num q => decide (0 ≤ q)
  | .name _ => true
  | .neg a => wfs a
  | .pos a => wfs a
  | .bin op a b => (opTok op).isSome && wfs a && wfs b
  | .call _ args => wfsList args
def wfsList : List SExpr → Bool
  | [] => true
  | a :: as => wfs a && wfsList as
end

theorem lower_succ {xs t} : ∀ k, G (kindOf (k + 1)) xs t → G (kindOf k) xs t
  | 0, h => h
  | 1, h => term_to_expr h
  | 2, h => factor_to_term h
  | 3, h => .fPow h
  | 4, h => .pAtom h
  | _ + 5, h => h

theorem lower {xs t j k} (hkj : k ≤ j) (h : G (kindOf j) xs t) : G (kindOf k) xs t := by
  induction hkj with
  | refl => exact h
  | step _ ih => exact ih (lower_succ _ h)

/-- `hb` is an implication: the printer may parenthesise more often than the levels demand (the table around `**`) -/
theorem wrap_phrase {xs t} (h : G (kindOf t.level) xs t) (k : Nat) {b : Bool} (hb : t.level < k → b = true) :
    G (kindOf k) (wrap b xs) t := by
  cases b with
  -- a parenthesised phrase is an atom, `kindOf (k + 5)`, hence a phrase of every kind
  | true => exact lower (Nat.le_add_right k 5) (G.aParen (lower (Nat.zero_le _) h))
  | false => exact lower (Nat.le_of_not_lt fun hl => nomatch hb hl) h

/-! ### appending one more operand to a left-associative chain -/

inductive SumOp : String → Tok → Prop
  | plus : SumOp "+" plus
  | minus : SumOp "-" minus

inductive ProdOp : String → Tok → Prop
  | star : ProdOp "*" star
  | slash : ProdOp "/" slash
  | dslash : ProdOp "//" dslash
  | percent : ProdOp "%" percent

theorem G.etOp {acc ys b zs t} : ∀ {op tok}, SumOp op tok → G .term ys b → G (.exprTail (.bin op acc b)) zs t →
    G (.exprTail acc) (tok :: ys ++ zs) t
  | _, _, .plus => .etPlus
  | _, _, .minus => .etMinus

theorem G.ttOp {acc ys b zs t} : ∀ {op tok}, ProdOp op tok → G .factor ys b → G (.termTail (.bin op acc b)) zs t →
    G (.termTail acc) (tok :: ys ++ zs) t
  | _, _, .star => .ttStar
  | _, _, .slash => .ttSlash
  | _, _, .dslash => .ttDslash
  | _, _, .percent => .ttPercent

theorem exprTail_append {ws u} : ∀ {acc zs t}, G (.exprTail acc) zs t → G (.exprTail t) ws u → G (.exprTail acc) (zs ++ ws) u
  | _, _, _, .etNil, h' => h'
  | _, _, _, .etPlus h1 h2, h' => by simpa using G.etPlus h1 (exprTail_append h2 h')
  | _, _, _, .etMinus h1 h2, h' => by simpa using G.etMinus h1 (exprTail_append h2 h')
termination_by _ zs => zs.length
decreasing_by all_goals simp +arith

theorem termTail_append {ws u} : ∀ {acc zs t}, G (.termTail acc) zs t → G (.termTail t) ws u → G (.termTail acc) (zs ++ ws) u
  | _, _, _, .ttNil, h' => h'
  | _, _, _, .ttStar h1 h2, h' => by simpa using G.ttStar h1 (termTail_append h2 h')
  | _, _, _, .ttSlash h1 h2, h' => by simpa using G.ttSlash h1 (termTail_append h2 h')
  | _, _, _, .ttDslash h1 h2, h' => by simpa using G.ttDslash h1 (termTail_append h2 h')
  | _, _, _, .ttPercent h1 h2, h' => by simpa using G.ttPercent h1 (termTail_append h2 h')
termination_by _ zs => zs.length
decreasing_by all_goals simp +arith

theorem expr_snoc {op tok xs a ys b} (o : SumOp op tok) (ha : G .expr xs a) (hb : G .term ys b) :
    G .expr (xs ++ [tok] ++ ys) (.bin op a b) := by
  cases ha with
  | expr h1 h2 => simpa using G.expr h1 (exprTail_append h2 (G.etOp o hb .etNil))

theorem term_snoc {op tok xs a ys b} (o : ProdOp op tok) (ha : G .term xs a) (hb : G .factor ys b) :
    G .term (xs ++ [tok] ++ ys) (.bin op a b) := by
  cases ha with
  | term h1 h2 => simpa using G.term h1 (termTail_append h2 (G.ttOp o hb .ttNil))

theorem opTok_cases {op : String} {tok : Tok} (h : opTok op = some tok) :
    SumOp op tok ∨ ProdOp op tok ∨ op = "**" ∧ tok = pow := by
  unfold opTok at h
  split at h <;> cases h
  · exact .inl .plus
  · exact .inl .minus
  · exact .inr (.inl .star)
  · exact .inr (.inl .slash)
  · exact .inr (.inl .dslash)
  · exact .inr (.inl .percent)
  · exact .inr (.inr ⟨rfl, rfl⟩)

theorem SumOp.level {op tok} (o : SumOp op tok) (a b : SExpr) : (SExpr.bin op a b).level = 1 := by
  cases o <;> rfl

theorem SumOp.print {op tok} (o : SumOp op tok) (tbl : ParenTable) (a b : SExpr) :
    printWith tbl (.bin op a b) = printWith tbl a ++ [tok] ++ wrap (decide (b.level < 2)) (printWith tbl b) := by
  cases o <;> rfl

theorem ProdOp.level {op tok} (o : ProdOp op tok) (a b : SExpr) : (SExpr.bin op a b).level = 2 := by
  cases o <;> rfl

theorem ProdOp.print {op tok} (o : ProdOp op tok) (tbl : ParenTable) (a b : SExpr) :
    printWith tbl (.bin op a b) =
      wrap (decide (a.level < 2)) (printWith tbl a) ++ [tok] ++ wrap (decide (b.level < 3)) (printWith tbl b) := by
  cases o <;> rfl

mutual
/-- for EVERY table: it can only add parentheses to those the levels demand, and a parenthesised phrase fits everywhere
    (`wrap_phrase`) -/
theorem print_reads (tbl : ParenTable) : ∀ (t : SExpr), wfs t = true → G (kindOf t.level) (printWith tbl t) t
  | .num _, _ => G.aNum
  | .name _, _ => G.aName
  | .neg a, h => G.fNeg (wrap_phrase (print_reads tbl a h) 3 decide_eq_true)
  | .pos a, h => G.fPos (wrap_phrase (print_reads tbl a h) 3 decide_eq_true)
  | .bin op a b, h => by
    simp only [wfs, Bool.and_eq_true, Option.isSome_iff_exists] at h
    obtain ⟨⟨⟨tok, htok⟩, ha⟩, hb⟩ := h
    have iha := print_reads tbl a ha
    have ihb := print_reads tbl b hb
    rcases opTok_cases htok with o | o | ⟨rfl, rfl⟩
    · rw [o.level, o.print]
      exact expr_snoc o (lower (Nat.zero_le _) iha) (wrap_phrase ihb 2 decide_eq_true)
    · rw [o.level, o.print]
      exact term_snoc o (wrap_phrase iha 2 decide_eq_true) (wrap_phrase ihb 3 decide_eq_true)
    · show G .power (wrap _ _ ++ pow :: wrap _ _) _
      exact G.pPow (wrap_phrase iha 5 fun hl => by simp [hl]) (wrap_phrase ihb 3 fun hl => by simp [hl])
  | .call _ args, h => G.aCall (printArgs_reads tbl args h)
theorem printArgs_reads (tbl : ParenTable) : ∀ (args : List SExpr), wfsList args = true → GA .args (printArgs tbl args) args
  | [], _ => GA.argsNil
  | a :: rest, h => by
    simp only [wfsList, Bool.and_eq_true] at h
    exact GA.argsCons (lower (Nat.zero_le _) (print_reads tbl a h.1)) (printArgsTail_reads tbl rest [a] h.2)
theorem printArgsTail_reads (tbl : ParenTable) : ∀ (rest : List SExpr) (acc : List SExpr), wfsList rest = true →
    GA (.argsTail acc) (printArgsTail tbl rest) (acc ++ rest)
  | [], acc, _ => by simpa [printArgsTail] using GA.atEnd (acc := acc)
  | b :: rest, acc, h => by
    simp only [wfsList, Bool.and_eq_true] at h
    simpa [printArgsTail] using GA.atComma (lower (Nat.zero_le _) (print_reads tbl b h.1)) (printArgsTail_reads tbl rest (acc ++ [b]) h.2)
end

theorem print_is_read (tbl : ParenTable) (t : SExpr) (h : wfs t = true) : Reads (printWith tbl t) t :=
  lower (Nat.zero_le _) (print_reads tbl t h)

theorem parse_print (tbl : ParenTable) (t : SExpr) (h : wfs t = true) : parseToks (printWith tbl t) = some t :=
  parseToks_complete (print_is_read tbl t h)

end Bartiq
