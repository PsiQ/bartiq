/-
  The model's insertion sort `sortBy (· < ·)` (BartiqModel/Preprocess.lean; `dedupSorted` is in BartiqModel/Compile.lean) is canonical: it returns the same list for any two permutations of its
  input (String order is a linear order).  Used wherever the code sorts something that came out of a set or a
  user-ordered list (`sorted(...)`, `sorted(set ...)`).
-/
import BartiqModel.Compile
import Mathlib.Data.String.Basic
namespace Bartiq

variable {α : Type} [LinearOrder α]

theorem insertSorted_perm (x : α) : ∀ (l : List α), (insertSorted (fun a b => decide (a < b)) x l).Perm (x :: l)
  | [] => List.Perm.refl _
  | y :: ys => by
    simp only [insertSorted]
    split
    · exact List.Perm.refl _
    · exact ((insertSorted_perm x ys).cons y).trans (List.Perm.swap x y ys)

theorem sortBy_perm : ∀ (l : List α), (sortBy (fun a b => decide (a < b)) l).Perm l
  | [] => List.Perm.refl _
  | x :: xs => by
    simp only [sortBy, List.foldr_cons]
    exact (insertSorted_perm x _).trans ((sortBy_perm xs).cons x)

theorem insertSorted_pairwise (x : α) : ∀ (l : List α), l.Pairwise (· ≤ ·) →
    (insertSorted (fun a b => decide (a < b)) x l).Pairwise (· ≤ ·)
  | [], _ => List.pairwise_singleton _ _
  | y :: ys, h => by
    obtain ⟨hy, hys⟩ := List.pairwise_cons.mp h
    simp only [insertSorted, decide_eq_true_eq]
    split
    · next hxy => exact List.pairwise_cons.mpr ⟨List.forall_mem_cons.mpr ⟨hxy.le, fun z hz => hxy.le.trans (hy z hz)⟩, h⟩
    · next hxy =>
      refine List.pairwise_cons.mpr ⟨fun z hz => ?_, insertSorted_pairwise x ys hys⟩
      rcases List.mem_cons.mp ((insertSorted_perm x ys).mem_iff.mp hz) with rfl | hz
      · exact not_lt.mp hxy
      · exact hy z hz

theorem sortBy_pairwise : ∀ (l : List α), (sortBy (fun a b => decide (a < b)) l).Pairwise (· ≤ ·)
  | [] => List.Pairwise.nil
  | x :: xs => by
    simp only [sortBy, List.foldr_cons]
    exact insertSorted_pairwise x _ (sortBy_pairwise xs)

theorem sortBy_eq_of_perm {l₁ l₂ : List α} (h : l₁.Perm l₂) :
    sortBy (fun a b => decide (a < b)) l₁ = sortBy (fun a b => decide (a < b)) l₂ := by
  apply List.Perm.eq_of_pairwise (le := (· ≤ ·)) (fun a b _ _ hab hba => le_antisymm hab hba)
    (sortBy_pairwise l₁) (sortBy_pairwise l₂)
  exact (sortBy_perm l₁).trans (h.trans (sortBy_perm l₂).symm)

theorem mem_dedupSorted {x : String} {l : List String} : x ∈ dedupSorted l ↔ x ∈ l := by
  rw [dedupSorted, List.mem_eraseDups, (sortBy_perm l).mem_iff]

/-- `sorted(set(...))`: the result does not depend on the order in which the elements were collected -/
theorem dedupSorted_eq_of_perm {l₁ l₂ : List String} (h : l₁.Perm l₂) : dedupSorted l₁ = dedupSorted l₂ :=
  congrArg List.eraseDups (sortBy_eq_of_perm h)

end Bartiq
