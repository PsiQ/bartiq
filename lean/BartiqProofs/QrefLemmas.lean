/-
  What the QREF round trip (Properties/C13.lean) needs about splitting a string at a dot, and
  that merging links with distinct sources changes nothing.
-/
import BartiqModel.Qref
import BartiqProofs.DictLemmas
namespace Bartiq

theorem splitAtFirst_append (c : Char) : ∀ (a b : List Char), c ∉ a → splitAtFirst c (a ++ c :: b) = some (a, b)
  | [], b, _ => by simp [splitAtFirst]
  | x :: a, b, h => by
    simp [splitAtFirst, (List.ne_of_not_mem_cons h).symm, splitAtFirst_append c a b (List.not_mem_of_not_mem_cons h)]

theorem splitAtFirst_none (c : Char) : ∀ (l : List Char), c ∉ l → splitAtFirst c l = none
  | [], _ => rfl
  | x :: l, h => by
    simp [splitAtFirst, (List.ne_of_not_mem_cons h).symm, splitAtFirst_none c l (List.not_mem_of_not_mem_cons h)]

theorem splitAtLast_append (c : Char) (a b : List Char) (h : c ∉ b) : splitAtLast c (a ++ c :: b) = some (a, b) := by
  unfold splitAtLast
  have : (a ++ c :: b).reverse = b.reverse ++ c :: a.reverse := by simp
  rw [this, splitAtFirst_append c b.reverse a.reverse (by simpa using h)]
  simp

theorem toList_dot (a b : String) : (a ++ "." ++ b).toList = a.toList ++ '.' :: b.toList := by
  simp [String.toList_append]

def Dotless (s : String) : Prop := '.' ∉ s.toList

theorem mergeLinks_fold : ∀ (l : List (String × List (String × String))) (acc : Dict (List (String × String))),
    (acc.keys ++ l.map (·.1)).Nodup →
      l.foldl (fun acc kv => acc.set kv.1 (((acc.get? kv.1).getD []) ++ kv.2)) acc = acc ++ l
  | [], acc, _ => (List.append_nil acc).symm
  | kv :: l, acc, hnd => by
    have hk : kv.1 ∉ acc.keys := fun hin => (List.nodup_append.mp hnd).2.2 _ hin _ List.mem_cons_self rfl
    rw [List.foldl_cons, Dict.get?_eq_none_iff.mpr hk, Dict.set_fresh acc kv.1 _ hk, mergeLinks_fold l _ (by simpa [Dict.keys] using hnd)]
    simp

theorem mergeLinks_of_nodup (l : List (String × List (String × String))) (h : (l.map (·.1)).Nodup) : mergeLinks l = l := by
  unfold mergeLinks
  rw [mergeLinks_fold l [] (by simpa [Dict.keys] using h)]
  simp

end Bartiq
