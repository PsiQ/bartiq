/-
  Spec lemmas for `compile` / `compileChildren`: a successful run exposes all its intermediate values.
  Every property theorem about compilation starts from these.
-/
import BartiqModel.Compile
import BartiqProofs.ExceptLemmas
namespace Bartiq

/-- everything a successful `compile` of a node went through -/
structure CompileTrace (C : Comparator) (inputs : Dict Expr) (path : String) (r : Routine) where
  lv : Dict Expr
  nc : List Constraint
  upd : PUpdate
  pm2 : PTree
  ccs : List CRoutine
  res : List Resource
  rep' : Option Repetition
  hlv : compileLocalVariables r.localVars inputs = .ok lv
  hnc : evaluateConstraints C r.constraints (Dict.merge lv inputs) path = .ok nc
  hupd : paramTreeFromCompiledPorts (connectionsFrom r.conns none)
          (evaluatePorts (Port.portsOf r.ports [.input, .through]) (pmInit lv inputs r.linked r.children).self) = .ok upd
  hch : compileChildren C r.conns path ((pmInit lv inputs r.linked r.children).mergeUpd upd) r.children = .ok (pm2, ccs)
  hrep : repStep r.rep r.resources ccs (Dict.merge pm2.self (childrenVariables ccs)) = .ok (res, rep')

def CompileTrace.result {C : Comparator} {inputs : Dict Expr} {path : String} {r : Routine} (t : CompileTrace C inputs path r) : CRoutine :=
  finishNode r.name r.type r.inputParams inputs r.ports r.conns r.childrenOrder t.nc
    (evaluatePorts (Port.portsOf r.ports [.input, .through]) (pmInit t.lv inputs r.linked r.children).self)
    (Dict.merge t.pm2.self (childrenVariables t.ccs)) t.res t.rep' t.ccs

theorem compile_ok_iff {C : Comparator} {inputs : Dict Expr} {path : String} {r : Routine} {c : CRoutine} :
    compile C inputs path r = .ok c ↔ ∃ t : CompileTrace C inputs path r, t.result = c := by
  obtain ⟨name, ty, ips, lvs, lks, ps, rs, cs, rep, cons, ch, ord⟩ := r
  simp only [compile, Except.bind_eq_ok, Except.pure_eq_ok]
  constructor
  · rintro ⟨lv, hlv, nc, hnc, upd, hupd, ⟨pm2, ccs⟩, hch, ⟨res, rep'⟩, hrep, rfl⟩
    exact ⟨⟨lv, nc, upd, pm2, ccs, res, rep', hlv, hnc, hupd, hch, hrep⟩, rfl⟩
  · rintro ⟨t, rfl⟩
    exact ⟨t.lv, t.hlv, t.nc, t.hnc, t.upd, t.hupd, (t.pm2, t.ccs), t.hch, (t.res, t.rep'), t.hrep, rfl⟩

theorem compileChildren_nil {C : Comparator} {conns : List (Endpoint × Endpoint)} {path : String} {pm pm' : PTree} {ccs : List CRoutine}
    (h : compileChildren C conns path pm [] = .ok (pm', ccs)) : pm' = pm ∧ ccs = [] := by
  cases Except.pure_eq_ok.mp h; exact ⟨rfl, rfl⟩

theorem compileChildren_cons_iff {C : Comparator} {conns : List (Endpoint × Endpoint)} {path : String} {pm pm' : PTree}
    {c : Routine} {cs : List Routine} {ccs : List CRoutine} :
    compileChildren C conns path pm (c :: cs) = .ok (pm', ccs) ↔
    ∃ cc upd ccs', compile C ((pm.kids.get? c.name).getD []) (path ++ "." ++ c.name) c = .ok cc ∧
      paramTreeFromCompiledPorts (connectionsFrom conns (some c.name)) cc.ports = .ok upd ∧
      compileChildren C conns path (pm.mergeUpd upd) cs = .ok (pm', ccs') ∧ ccs = cc :: ccs' := by
  simp only [compileChildren, Except.bind_eq_ok, Except.pure_eq_ok, Prod.mk.injEq]
  constructor
  · rintro ⟨cc, hcc, upd, hupd, ⟨pm'', ccs'⟩, hrest, rfl, rfl⟩
    exact ⟨cc, upd, ccs', hcc, hupd, hrest, rfl⟩
  · rintro ⟨cc, upd, ccs', hcc, hupd, hrest, rfl⟩
    exact ⟨cc, hcc, upd, hupd, (pm', ccs'), hrest, rfl, rfl⟩

theorem compileChildren_cons_ok {C : Comparator} {conns : List (Endpoint × Endpoint)} {path : String} {pm pm' : PTree}
    {c : Routine} {cs : List Routine} {cc : CRoutine} {upd : PUpdate} {ccs : List CRoutine}
    (h1 : compile C ((pm.kids.get? c.name).getD []) (path ++ "." ++ c.name) c = .ok cc)
    (h2 : paramTreeFromCompiledPorts (connectionsFrom conns (some c.name)) cc.ports = .ok upd)
    (h3 : compileChildren C conns path (pm.mergeUpd upd) cs = .ok (pm', ccs)) :
    compileChildren C conns path pm (c :: cs) = .ok (pm', cc :: ccs) := compileChildren_cons_iff.mpr ⟨cc, upd, ccs, h1, h2, h3, rfl⟩

/-! ### simple facts about the pieces -/

theorem compileLocalVariables_ok {lvs σ lv : Dict Expr} (h : compileLocalVariables lvs σ = .ok lv) :
    ∃ order, localOrder lvs = some order ∧ (order.foldl (localsStep Expr.subst lvs) ([], σ)).1 = lv := by
  unfold compileLocalVariables at h
  cases ho : localOrder lvs with
  | none => rw [ho] at h; exact (Except.throw_ne_ok.mp h).elim
  | some order => rw [ho] at h; exact ⟨order, rfl, Except.pure_eq_ok.mp h⟩

theorem mem_connectionsFrom {conns : List (Endpoint × Endpoint)} {src : Option String} {st : String × Endpoint}
    (h : st ∈ connectionsFrom conns src) : ∃ c ∈ conns, c.1.routine = src ∧ c.1.port = st.1 ∧ c.2 = st.2 := by
  obtain ⟨c, hc, rfl⟩ := List.mem_map.mp h
  have := List.mem_filter.mp hc
  exact ⟨c, this.1, by simpa using this.2, rfl, rfl⟩

theorem paramTreeFromSizes_entries {α : Type} {cm : List (String × Endpoint)} {sizes : Dict α} {upd : PUpdateG α}
    (h : paramTreeFromSizes cm sizes = .ok upd) :
    ∀ e ∈ upd, ∃ st ∈ cm, e.1 = st.2.routine ∧ e.2.1 = "#" ++ st.2.port ∧ sizes.get? st.1 = some e.2.2 := by
  intro e he
  obtain ⟨st, hst, hf⟩ := mapM_ok_mem _ _ _ h e he
  refine ⟨st, hst, ?_⟩
  cases hs : sizes.get? st.1 with
  | none => rw [hs] at hf; exact (Except.throw_ne_ok.mp hf).elim
  | some s => rw [hs] at hf; cases Except.pure_eq_ok.mp hf; exact ⟨rfl, rfl, rfl⟩

theorem evaluatePorts_shape (ps : List Port) (σ : Dict Expr) :
    (evaluatePorts ps σ).map (fun p => (p.name, p.dir)) = ps.map (fun p => (p.name, p.dir)) := by
  simp [evaluatePorts, List.map_map, Function.comp_def]

theorem evaluateResources_shape (rs : List Resource) (σ : Dict Expr) :
    (evaluateResources rs σ).map (fun r => (r.name, r.ty)) = rs.map (fun r => (r.name, r.ty)) := by
  simp [evaluateResources, List.map_map, Function.comp_def]

theorem Port.mem_portsOf {ps : List Port} {ds : List Dir} {p : Port} : p ∈ Port.portsOf ps ds ↔ p ∈ ps ∧ p.dir ∈ ds := by
  rw [Port.portsOf, List.mem_filter, List.contains_iff_mem]

theorem portsOf_evaluatePorts (ps : List Port) (σ : Dict Expr) (dirs : List Dir) :
    Port.portsOf (evaluatePorts ps σ) dirs = evaluatePorts (Port.portsOf ps dirs) σ := by
  unfold Port.portsOf evaluatePorts
  rw [List.filter_map]
  rfl

/-! ### the repetition step -/

/-- the body of the loop of `_process_repeated_resources` over the resources of the only child -/
def repResStep (rep : Repetition) (childName : String) (acc : List Resource) (nt : String × ResTy) : Except Err (List Resource) := do
  let ref := Expr.sym (childName ++ "." ++ nt.1)
  match nt.2 with
  | .additive => pure (Resource.set acc ⟨nt.1, nt.2, ← rep.seq.getSum rep.count ref⟩)
  | .multiplicative => pure (Resource.set acc ⟨nt.1, nt.2, ← rep.seq.getProd rep.count ref⟩)
  | .qubits =>
    (match rep.seq with
     | .constant _ => pure acc
     | _ => throw (.compilation s!"Can't process resource \"{nt.1}\" of type \"qubits\" in repetitive structure."))
  | .other => throw (.compilation s!"Can't process resource \"{nt.1}\" of type \"other\" in repetitive structure.")

theorem processRepeatedResources_single (rp : Repetition) (rs : List Resource) (cn : String) (cr : List (String × ResTy)) :
    processRepeatedResources rp rs [(cn, cr)] =
      if !(rs.all (repResourceOK cn cr)) then throw (.internal "AssertionError") else cr.foldlM (repResStep rp cn) [] := rfl

theorem processRepeatedResources_ok {rp : Repetition} {rs : List Resource} {sigs : List (String × List (String × ResTy))}
    {out : List Resource} (h : processRepeatedResources rp rs sigs = .ok out) :
    ∃ cn cr, sigs = [(cn, cr)] ∧ rs.all (repResourceOK cn cr) = true ∧ cr.foldlM (repResStep rp cn) [] = .ok out := by
  match sigs, h with
  | [(cn, cr)], h =>
    rw [processRepeatedResources_single] at h
    cases hok : rs.all (repResourceOK cn cr) with
    | false => rw [hok] at h; exact (Except.throw_ne_ok.mp h).elim
    | true => rw [hok] at h; exact ⟨cn, cr, rfl, hok, h⟩

theorem repResStep_ok {rp : Repetition} {cn : String} {acc acc' : List Resource} {nt : String × ResTy}
    (h : repResStep rp cn acc nt = .ok acc') :
    (∃ v, (nt.2 = .additive ∧ rp.seq.getSum rp.count (.sym (cn ++ "." ++ nt.1)) = .ok v ∨
           nt.2 = .multiplicative ∧ rp.seq.getProd rp.count (.sym (cn ++ "." ++ nt.1)) = .ok v) ∧
          acc' = Resource.set acc ⟨nt.1, nt.2, v⟩) ∨
    (nt.2 = .qubits ∧ (∃ m, rp.seq = .constant m) ∧ acc' = acc) := by
  unfold repResStep at h
  cases hty : nt.2 with
  | additive =>
    simp only [hty, Except.bind_eq_ok, Except.pure_eq_ok] at h
    obtain ⟨v, hv, rfl⟩ := h
    exact .inl ⟨v, .inl ⟨rfl, hv⟩, rfl⟩
  | multiplicative =>
    simp only [hty, Except.bind_eq_ok, Except.pure_eq_ok] at h
    obtain ⟨v, hv, rfl⟩ := h
    exact .inl ⟨v, .inr ⟨rfl, hv⟩, rfl⟩
  | qubits =>
    simp only [hty] at h
    split at h
    · exact .inr ⟨rfl, ⟨_, ‹_›⟩, (Except.pure_eq_ok.mp h).symm⟩
    · exact (Except.throw_ne_ok.mp h).elim
  | other => rw [hty] at h; exact (Except.throw_ne_ok.mp h).elim

theorem repResStep_error {rp : Repetition} {cn : String} {acc : List Resource} {nt : String × ResTy} {e : Err}
    (h : repResStep rp cn acc nt = .error e) :
    rp.seq.getSum rp.count (.sym (cn ++ "." ++ nt.1)) = .error e ∨ rp.seq.getProd rp.count (.sym (cn ++ "." ++ nt.1)) = .error e ∨
      ∃ m, e = .compilation m := by
  unfold repResStep at h
  cases hty : nt.2 with
  | additive =>
    simp only [hty, Except.bind_eq_error, Except.pure_ne_error, and_false, exists_false, or_false] at h
    exact .inl h
  | multiplicative =>
    simp only [hty, Except.bind_eq_error, Except.pure_ne_error, and_false, exists_false, or_false] at h
    exact .inr (.inl h)
  | qubits =>
    simp only [hty] at h
    split at h
    · exact (Except.pure_ne_error.mp h).elim
    · exact .inr (.inr ⟨_, (Except.throw_eq_error.mp h).symm⟩)
  | other => rw [hty] at h; exact .inr (.inr ⟨_, (Except.throw_eq_error.mp h).symm⟩)

theorem repStep_ok {rep : Option Repetition} {rs : List Resource} {ccs : List CRoutine} {d : Dict Expr} {res : List Resource}
    {rep' : Option Repetition} (h : repStep rep rs ccs d = .ok (res, rep')) :
    (rep = none ∧ res = rs ∧ rep' = none) ∨
    ∃ rp rp', rep = some rp ∧ processRepeatedResources rp rs (childSigs ccs) = .ok res ∧ rp.substituteSymbols d = .ok rp' ∧
      rep' = some rp' := by
  cases rep with
  | none => cases Except.pure_eq_ok.mp h; exact .inl ⟨rfl, rfl, rfl⟩
  | some rp =>
    simp only [repStep, Except.bind_eq_ok, Except.pure_eq_ok, Prod.mk.injEq] at h
    obtain ⟨rs', hrs', rp', hrp', rfl, rfl⟩ := h
    exact .inr ⟨rp, rp', rfl, hrs', hrp', rfl⟩

end Bartiq
