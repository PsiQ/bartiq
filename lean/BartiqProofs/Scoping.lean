/-
  Well-scopedness, semantically: a routine is well-scoped relative to a set G of top-level names when its bottom-up reading
  (`denoteV`) is DEFINED everywhere as soon as exactly the names of G are given values.  Reading the expressions in the
  one-point algebra (every operation total, a symbol defined iff it is in the environment) turns "defined" into "mentions
  only names of the environment"; the refinement theorem (applied in Properties/C04.lean) then transports well-scopedness of
  the source into closedness of the compiled hierarchy.
-/
import BartiqModel.Denote
import BartiqProofs.ExprLemmas
namespace Bartiq
open Expr

theorem fv_subset_of_defined (G : List String) (e : Expr) (h : (eval unitAlg (envOf G) e).isSome) : ∀ x ∈ fv e, x ∈ G :=
  fun x hx => Decidable.byContradiction fun hg =>
    Option.isSome_iff_ne_none.mp h (eval_strict unitAlg e _ x (.inr fun _ _ _ => rfl) hx (if_neg hg))

mutual
/-- every port size and every resource of every node of the compiled hierarchy only mentions names of `G` -/
def CRoutine.closedOver (G : List String) : CRoutine → Prop
  | ⟨_, _, _, ps, rs, _, _, _, ch, _⟩ =>
    (∀ p ∈ ps, ∀ x ∈ fv p.size, x ∈ G) ∧ (∀ r ∈ rs, ∀ x ∈ fv r.value, x ∈ G) ∧ CRoutine.closedOverList G ch
def CRoutine.closedOverList (G : List String) : List CRoutine → Prop
  | [] => True
  | c :: cs => c.closedOver G ∧ CRoutine.closedOverList G cs
end

mutual
theorem closed_of_allDefined (G : List String) : ∀ (c : CRoutine), (evalTree unitAlg (envOf G) c).allDefined = true → c.closedOver G
  | ⟨n, ty, ips, ps, rs, cs, rep, cons, ch, ord⟩, h => by
    simp only [evalTree, NVal.allDefined, Bool.and_eq_true, List.all_eq_true, List.mem_map, forall_exists_index, and_imp,
      forall_apply_eq_imp_iff₂] at h
    obtain ⟨⟨hp, hr⟩, hc⟩ := h
    exact ⟨fun p hpm => fv_subset_of_defined G p.size (hp p hpm), fun r hrm => fv_subset_of_defined G r.value (hr r hrm),
      closedList_of_allDefined G ch hc⟩
theorem closedList_of_allDefined (G : List String) : ∀ (cs : List CRoutine),
    NVal.allDefinedList (evalTreeList unitAlg (envOf G) cs) = true → CRoutine.closedOverList G cs
  | [], _ => trivial
  | c :: cs, h => by
    simp only [evalTreeList, NVal.allDefinedList, Bool.and_eq_true] at h
    exact ⟨closed_of_allDefined G c h.1, closedList_of_allDefined G cs h.2⟩
end

end Bartiq
