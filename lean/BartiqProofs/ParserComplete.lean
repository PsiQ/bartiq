/-
  The recursive-descent parser of BartiqModel/Parser.lean reads every phrase of the STANDARD grammar
  (usual precedence levels, left-associative + - * / // %, right-associative power binding tighter than a unary sign on
  its left and admitting a signed exponent, parentheses, function calls) as the tree the grammar assigns to it.
-/
import BartiqModel.Parser
namespace Bartiq
open Tok

/-- the tails carry the tree built so far (left associativity) -/
inductive K where
  | expr | exprTail (acc : SExpr) | term | termTail (acc : SExpr) | factor | power | atom

inductive KA where
  | args | argsTail (acc : List SExpr)

mutual
/-- the declarative grammar: `G k ts t` — the token list `ts` is a phrase of kind `k` denoting `t` -/
inductive G : K → List Tok → SExpr → Prop
  | expr {xs ys a t} : G .term xs a → G (.exprTail a) ys t → G .expr (xs ++ ys) t
  | etNil {acc} : G (.exprTail acc) [] acc
  | etPlus {acc ys b zs t} : G .term ys b → G (.exprTail (.bin "+" acc b)) zs t → G (.exprTail acc) (plus :: ys ++ zs) t
  | etMinus {acc ys b zs t} : G .term ys b → G (.exprTail (.bin "-" acc b)) zs t → G (.exprTail acc) (minus :: ys ++ zs) t
  | term {xs ys a t} : G .factor xs a → G (.termTail a) ys t → G .term (xs ++ ys) t
  | ttNil {acc} : G (.termTail acc) [] acc
  | ttStar {acc ys b zs t} : G .factor ys b → G (.termTail (.bin "*" acc b)) zs t → G (.termTail acc) (star :: ys ++ zs) t
  | ttSlash {acc ys b zs t} : G .factor ys b → G (.termTail (.bin "/" acc b)) zs t → G (.termTail acc) (slash :: ys ++ zs) t
  | ttDslash {acc ys b zs t} : G .factor ys b → G (.termTail (.bin "//" acc b)) zs t → G (.termTail acc) (dslash :: ys ++ zs) t
  | ttPercent {acc ys b zs t} : G .factor ys b → G (.termTail (.bin "%" acc b)) zs t → G (.termTail acc) (percent :: ys ++ zs) t
  | fNeg {xs a} : G .factor xs a → G .factor (minus :: xs) (.neg a)
  | fPos {xs a} : G .factor xs a → G .factor (plus :: xs) (.pos a)
  | fPow {xs a} : G .power xs a → G .factor xs a
  | pAtom {xs a} : G .atom xs a → G .power xs a
  | pPow {xs a ys b} : G .atom xs a → G .factor ys b → G .power (xs ++ pow :: ys) (.bin "**" a b)
  | aNum {q} : G .atom [num q] (.num q)
  | aName {s} : G .atom [name s] (.name s)
  | aParen {xs t} : G .expr xs t → G .atom (lp :: xs ++ [rp]) t
  | aCall {s xs args} : GA .args xs args → G .atom (name s :: lp :: xs) (.call s args)
inductive GA : KA → List Tok → List SExpr → Prop
  | argsNil : GA .args [rp] []
  | argsCons {xs e ys l} : G .expr xs e → GA (.argsTail [e]) ys l → GA .args (xs ++ ys) l
  | atEnd {acc} : GA (.argsTail acc) [rp] acc
  | atComma {acc xs e ys l} : G .expr xs e → GA (.argsTail (acc ++ [e])) ys l → GA (.argsTail acc) (comma :: xs ++ ys) l
end

def Reads (ts : List Tok) (t : SExpr) : Prop := G .expr ts t

def afterExpr : Option Tok → Prop
  | none => True | some rp => True | some comma => True | _ => False
def afterTerm (n : Option Tok) : Prop := afterExpr n ∨ n = some plus ∨ n = some minus
def afterFactor (n : Option Tok) : Prop := afterTerm n ∨ n = some star ∨ n = some slash ∨ n = some dslash ∨ n = some percent
def afterAtom (n : Option Tok) : Prop := afterFactor n ∨ n = some pow

def follow : K → Option Tok → Prop
  | .expr, n | .exprTail _, n => afterExpr n
  | .term, n | .termTail _, n => afterTerm n
  | .factor, n | .power, n => afterFactor n
  | .atom, n => afterAtom n

def run : K → Nat → List Tok → Option (SExpr × List Tok)
  | .expr, f, ts => pExpr f ts
  | .exprTail acc, f, ts => pExprTail f acc ts
  | .term, f, ts => pTerm f ts
  | .termTail acc, f, ts => pTermTail f acc ts
  | .factor, f, ts => pFactor f ts
  | .power, f, ts => pPower f ts
  | .atom, f, ts => pAtom f ts

def runA : KA → Nat → List Tok → Option (List SExpr × List Tok)
  | .args, f, ts => pArgs f ts
  | .argsTail acc, f, ts => pArgsTail f acc ts

theorem factor_to_term {xs t} (h : G .factor xs t) : G .term xs t := by
  simpa using G.term h .ttNil

theorem term_to_expr {xs t} (h : G .term xs t) : G .expr xs t := by
  simpa using G.expr h .etNil

def startsAtom : List Tok → Prop
  | num _ :: _ => True
  | name _ :: _ => True
  | lp :: _ => True
  | _ => False

def startsFactor (ts : List Tok) : Prop := ts.head? = some minus ∨ ts.head? = some plus ∨ startsAtom ts

theorem atom_starts {xs a} (h : G .atom xs a) (r : List Tok) : startsAtom (xs ++ r) := by
  cases h <;> trivial

theorem power_starts {xs a} (h : G .power xs a) (r : List Tok) : startsAtom (xs ++ r) := by
  cases h with
  | pAtom h => exact atom_starts h r
  | pPow h _ => rw [List.append_assoc]; exact atom_starts h _

theorem factor_starts {xs a} (h : G .factor xs a) (r : List Tok) : startsFactor (xs ++ r) := by
  cases h with
  | fNeg _ => exact .inl rfl
  | fPos _ => exact .inr (.inl rfl)
  | fPow h => exact .inr (.inr (power_starts h r))

theorem term_starts {xs a} (h : G .term xs a) (r : List Tok) : startsFactor (xs ++ r) := by
  cases h with
  | term h1 _ => rw [List.append_assoc]; exact factor_starts h1 _

theorem expr_starts {xs a} (h : G .expr xs a) (r : List Tok) : startsFactor (xs ++ r) := by
  cases h with
  | expr h1 _ => rw [List.append_assoc]; exact term_starts h1 _

theorem exprTail_head {acc ys t} (h : G (.exprTail acc) ys t) (r : List Tok) (hr : afterExpr r.head?) :
    afterTerm (ys ++ r).head? := by
  cases h with
  | etNil => exact .inl hr
  | _ => simp [afterTerm]

theorem termTail_head {acc ys t} (h : G (.termTail acc) ys t) (r : List Tok) (hr : afterTerm r.head?) :
    afterFactor (ys ++ r).head? := by
  cases h with
  | ttNil => exact .inl hr
  | _ => simp [afterFactor]

theorem argsTail_head {acc ys l} (h : GA (.argsTail acc) ys l) (r : List Tok) : afterExpr (ys ++ r).head? := by
  cases h <;> trivial

/-! The catch-all clause of a parser function applies when the input does not start like the clauses before it: `rw [pX]`
picks that clause and leaves "the input is not `tok :: r`" for each earlier one. -/

theorem pExprTail_stop {f acc ts} (h : afterExpr ts.head?) : pExprTail (f + 1) acc ts = some (acc, ts) := by
  rw [pExprTail] <;> (rintro r rfl; exact h)

theorem pTermTail_stop {f acc ts} (h : afterTerm ts.head?) : pTermTail (f + 1) acc ts = some (acc, ts) := by
  rw [pTermTail] <;> (rintro r rfl; simp [afterTerm, afterExpr] at h)

theorem pPower_noPow {f ts a r} (h : pAtom f ts = some (a, r)) (hr : afterFactor r.head?) :
    pPower (f + 1) ts = some (a, r) := by
  rw [pPower, h]
  split <;> simp_all [afterFactor, afterTerm, afterExpr]

theorem pFactor_of_startsAtom {f ts} (h : startsAtom ts) : pFactor (f + 1) ts = pPower f ts := by
  rw [pFactor] <;> (rintro r rfl; exact h)

theorem pAtom_name {f s r} (h : afterAtom r.head?) : pAtom (f + 1) (name s :: r) = some (.name s, r) := by
  rw [pAtom]
  rintro r rfl
  simp [afterAtom, afterFactor, afterTerm, afterExpr] at h

theorem pArgs_of_startsFactor {f ts e r} (h : startsFactor ts) (he : pExpr f ts = some (e, r)) :
    pArgs (f + 1) ts = pArgsTail f [e] r := by
  rw [pArgs, he]
  rintro r rfl
  simp [startsFactor, startsAtom] at h

/-- fuel (= recursion depth) that suffices for a phrase of kind `k` with `n` tokens is `6 * n + cK k` -/
def cK : K → Nat
  | .atom => 0 | .power => 1 | .factor => 2 | .termTail _ => 1 | .term => 3 | .exprTail _ => 1 | .expr => 4
def cKA : KA → Nat
  | .argsTail _ => 1 | .args => 5

/-- the side condition of the `FromFuel` lemmas, where they are used below: the bound `6 * n + cK k` of each sub-phrase
    lies below that of the phrase (unfold `cK`, `cKA` and the lengths; linear arithmetic) -/
macro "fuel_bound" : tactic =>
  `(tactic| simp +arith only [cK, cKA, List.length_append, List.length_cons, List.length_nil, Nat.max_lt, and_self])

def FromFuel (n : Nat) (P : Nat → Prop) : Prop := ∀ f, n ≤ f → P f

namespace FromFuel
variable {n n₁ n₂ m : Nat} {P P₁ P₂ Q : Nat → Prop}

/-- the shape of every parser function: it spends one unit of fuel and calls the parsers of its sub-phrases with the rest -/
theorem step₂ (h₁ : FromFuel n₁ P₁) (h₂ : FromFuel n₂ P₂) (hs : ∀ f, P₁ f → P₂ f → Q (f + 1))
    (hm : max n₁ n₂ < m := by fuel_bound) : FromFuel m Q
  | 0, hf => absurd (Nat.lt_of_lt_of_le hm hf) (Nat.not_lt_zero _)
  | f + 1, hf =>
    have hf : max n₁ n₂ ≤ f := Nat.le_of_lt_succ (Nat.lt_of_lt_of_le hm hf)
    hs f (h₁ f (Nat.le_trans (Nat.le_max_left ..) hf)) (h₂ f (Nat.le_trans (Nat.le_max_right ..) hf))

theorem step (h : FromFuel n P) (hs : ∀ f, P f → Q (f + 1)) (hm : n < m := by fuel_bound) : FromFuel m Q :=
  h.step₂ h (fun f a _ => hs f a) ((Nat.max_self n).symm ▸ hm)

theorem base (hs : ∀ f, Q (f + 1)) (hm : 0 < m := by fuel_bound) : FromFuel m Q :=
  step (P := fun _ => True) (n := 0) (fun _ _ => trivial) (fun f _ => hs f) hm

end FromFuel

/-- `hf`: the parsers decide by the next token whether a phrase goes on (a tail by its operators, a power by `**`, a name
    by `(`), so a phrase is read to its end only before a token that cannot continue it.  Each case is the parser's equation
    for that rule, one unit of fuel above its sub-phrases. -/
theorem run_complete {k ts t} (h : G k ts t) (rest : List Tok) (hf : follow k rest.head?) :
    FromFuel (6 * ts.length + cK k) fun f => run k f (ts ++ rest) = some (t, rest) := by
  induction h using G.rec (motive_2 := fun k ts l _ => ∀ rest,
      FromFuel (6 * ts.length + cKA k) fun f => runA k f (ts ++ rest) = some (l, rest)) generalizing rest with
    -- in every case first: `run k`, `runA k` become the parser function of the kind, in the goal and the hypotheses
    dsimp only [run, runA] at *
  | expr h1 h2 ih1 ih2 | etPlus h1 h2 ih1 ih2 | etMinus h1 h2 ih1 ih2 =>
    exact (ih1 _ (exprTail_head h2 rest hf)).step₂ (ih2 rest hf) fun f a1 a2 => by simp [pExpr, pExprTail, a1, a2]
  | term h1 h2 ih1 ih2 | ttStar h1 h2 ih1 ih2 | ttSlash h1 h2 ih1 ih2 | ttDslash h1 h2 ih1 ih2
  | ttPercent h1 h2 ih1 ih2 =>
    exact (ih1 _ (termTail_head h2 rest hf)).step₂ (ih2 rest hf) fun f a1 a2 => by simp [pTerm, pTermTail, a1, a2]
  | etNil => exact .base fun _ => pExprTail_stop hf
  | ttNil => exact .base fun _ => pTermTail_stop hf
  | fNeg h1 ih1 | fPos h1 ih1 => exact (ih1 rest hf).step fun f a1 => by simp [pFactor, a1]
  | fPow h1 ih1 => exact (ih1 rest hf).step fun _ a1 => (pFactor_of_startsAtom (power_starts h1 rest)).trans a1
  | pAtom h1 ih1 => exact (ih1 rest (.inl hf)).step fun _ a1 => pPower_noPow a1 hf
  | @pPow _ _ ys _ h1 h2 ih1 ih2 =>
    exact (ih1 (pow :: (ys ++ rest)) (.inr rfl)).step₂ (ih2 rest hf) fun f a1 a2 => by simp [pPower, a1, a2]
  | aNum => exact .base fun _ => rfl
  | aName => exact .base fun _ => pAtom_name hf
  | aParen h1 ih1 => exact (ih1 (rp :: rest) trivial).step fun f a1 => by simp [pAtom, a1]
  | aCall h1 ih1 => exact (ih1 rest).step fun f a1 => by simp [pAtom, a1]
  | argsNil rest | atEnd rest => exact .base fun _ => rfl
  | argsCons h1 h2 ih1 ih2 rest =>
    exact (ih1 _ (argsTail_head h2 rest)).step₂ (ih2 rest) fun f a1 a2 => by
      rw [List.append_assoc]
      exact (pArgs_of_startsFactor (expr_starts h1 _) a1).trans a2
  | atComma h1 h2 ih1 ih2 rest =>
    exact (ih1 _ (argsTail_head h2 rest)).step₂ (ih2 rest) fun f a1 a2 => by simp [pArgsTail, a1, a2]

/-- the recursor concludes for one of the two families at a time: the cases of an argument list once more, with
    `run_complete` for the expressions in the list -/
theorem runA_complete {k ts l} (h : GA k ts l) (rest : List Tok) :
    FromFuel (6 * ts.length + cKA k) fun f => runA k f (ts ++ rest) = some (l, rest) := by
  induction h using GA.rec (motive_1 := fun _ _ _ _ => True) generalizing rest with
  | argsNil | atEnd => exact .base fun _ => rfl
  | argsCons h1 h2 _ ih2 =>
    exact (run_complete h1 _ (argsTail_head h2 rest)).step₂ (ih2 rest) fun f a1 a2 => by
      rw [List.append_assoc]
      exact (pArgs_of_startsFactor (expr_starts h1 _) a1).trans a2
  | atComma h1 h2 _ ih2 =>
    exact (run_complete h1 _ (argsTail_head h2 rest)).step₂ (ih2 rest)
      fun f (a1 : pExpr f _ = _) (a2 : pArgsTail f _ _ = _) => by simp [runA, pArgsTail, a1, a2]
  | _ => trivial

theorem complete : ∀ {k ts t}, G k ts t → ∀ rest, follow k rest.head? →
    ∃ f0, f0 ≤ 6 * ts.length + cK k ∧ ∀ f, f0 ≤ f → run k f (ts ++ rest) = some (t, rest) :=
  fun h rest hf => ⟨_, Nat.le_refl _, run_complete h rest hf⟩

theorem completeA : ∀ {k ts l}, GA k ts l → ∀ rest,
    ∃ f0, f0 ≤ 6 * ts.length + cKA k ∧ ∀ f, f0 ≤ f → runA k f (ts ++ rest) = some (l, rest) :=
  fun h rest => ⟨_, Nat.le_refl _, runA_complete h rest⟩

theorem parser_is_standard_reading {ts t} (h : Reads ts t) : FromFuel (6 * ts.length + 4) fun f => pExpr f ts = some (t, []) := by
  simpa [run, cK] using run_complete h [] trivial

theorem parseToks_complete {ts t} (h : Reads ts t) : parseToks ts = some t := by
  unfold parseToks
  rw [parser_is_standard_reading h _ (by omega)]

end Bartiq
