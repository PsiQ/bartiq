/-
  `_compile` raises nothing but its own error classes: the places where the Python code would fail
  with `KeyError` / `CycleError` / `AssertionError` (modelled as `Err.internal`) are unreachable on soundly wired trees.
-/
import BartiqModel.Pipeline
import BartiqModel.Sound
import BartiqProofs.CompileSpec
import BartiqProofs.DictLemmas
import BartiqProofs.ResourceLemmas
namespace Bartiq

/-- the computation fails, if at all, with one of bartiq's own error classes -/
def OwnErrors {α : Type} (x : Except Err α) : Prop := ∀ e, x = .error e → e.isInternal = false

theorem OwnErrors.pure {α : Type} (a : α) : OwnErrors (pure a : Except Err α) := fun _ h => (Except.pure_ne_error.mp h).elim

theorem OwnErrors.throw {α : Type} {e : Err} (h : e.isInternal = false) : OwnErrors (throw e : Except Err α) :=
  fun _ he => Except.throw_eq_error.mp he ▸ h

theorem OwnErrors.bind {α β : Type} {x : Except Err α} {f : α → Except Err β} (hx : OwnErrors x)
    (hf : ∀ a, x = .ok a → OwnErrors (f a)) : OwnErrors (x >>= f) := fun e h =>
  (Except.bind_eq_error.mp h).elim (hx e) fun ⟨a, ha, he⟩ => hf a ha e he

theorem OwnErrors.mapM {α β : Type} {f : α → Except Err β} {l : List α} (h : ∀ a ∈ l, OwnErrors (f a)) : OwnErrors (l.mapM f) :=
  fun e he => let ⟨a, ha, hfa⟩ := mapM_error f l e he; h a ha e hfa

theorem OwnErrors.foldlM {α β : Type} {f : β → α → Except Err β} {l : List α} (b : β) (h : ∀ b, ∀ a ∈ l, OwnErrors (f b a)) :
    OwnErrors (l.foldlM f b) :=
  fun e he => let ⟨b', a, ha, hfa⟩ := foldlM_error f l b e he; h b' a ha e hfa

theorem compileLocalVariables_own {lvs inputs : Dict Expr} (h : localOrder lvs ≠ none) : OwnErrors (compileLocalVariables lvs inputs) := by
  unfold compileLocalVariables
  split
  · exact absurd ‹_› h
  · exact .pure _

theorem evaluateConstraints_own (C : Comparator) (cs : List Constraint) (σ : Dict Expr) (path : String) :
    OwnErrors (evaluateConstraints C cs σ path) := by
  refine .mapM fun c _ => ?_
  split
  · exact .pure _
  · exact .throw rfl

theorem paramTreeFromCompiledPorts_own {conns : List (Endpoint × Endpoint)} {src : Option String} {ports : List Port}
    (h : ∀ c ∈ conns, c.1.routine = src → ∃ p ∈ ports, p.name = c.1.port) :
    OwnErrors (paramTreeFromCompiledPorts (connectionsFrom conns src) ports) := by
  refine .mapM fun st hst => ?_
  obtain ⟨c, hc, hr, hp, _⟩ := mem_connectionsFrom hst
  split
  · exact .pure _
  · obtain ⟨p, hp1, hp2⟩ := h c hc hr
    exact absurd (List.mem_map.mpr ⟨_, List.mem_map_of_mem hp1, hp2.trans hp⟩) (Dict.get?_eq_none_iff.mp ‹_›)

theorem compile_has_port {C : Comparator} {inputs : Dict Expr} {path : String} {r : Routine} {c : CRoutine}
    (h : compile C inputs path r = .ok c) {n : String} (hn : ∃ p ∈ r.ports, p.name = n) : ∃ p ∈ c.ports, p.name = n := by
  obtain ⟨t, rfl⟩ := compile_ok_iff.mp h
  obtain ⟨p, hp, rfl⟩ := hn
  have : p.dir ∈ [Dir.input, .through] ∨ p.dir ∈ [Dir.output] := by cases p.dir <;> decide
  exact this.elim (fun hd => ⟨_, List.mem_append_left _ (List.mem_map_of_mem (Port.mem_portsOf.mpr ⟨hp, hd⟩)), rfl⟩)
    fun hd => ⟨_, List.mem_append_right _ (List.mem_map_of_mem (Port.mem_portsOf.mpr ⟨hp, hd⟩)), rfl⟩

theorem getSum_getProd_own {count x : Expr} {s : Seq} (hs : s.iteratorOK = true) :
    OwnErrors (s.getSum count x) ∧ OwnErrors (s.getProd count x) := by
  cases s with
  | closedForm sm pr n =>
    constructor
    · cases sm with
      | none => exact .throw rfl
      | some _ => cases n <;> exact .pure _
    · cases pr with
      | none => exact .throw rfl
      | some _ => cases n <;> exact .pure _
  | custom t i =>
    cases i with
    | sym _ => exact ⟨.pure _, .pure _⟩
    | _ => cases hs
  | _ => exact ⟨.pure _, .pure _⟩

theorem substituteSymbols_own (σ : Dict Expr) (rp : Repetition) : OwnErrors (rp.substituteSymbols σ) := by
  refine .bind ?_ fun _ _ => .pure _
  cases rp.seq with
  | custom t i =>
    cases i with
    | sym it =>
      simp only [Seq.substituteSymbols]
      split
      · exact .throw rfl
      · exact .pure _
    | _ => exact .pure _
  | _ => exact .pure _

theorem processRepeatedResources_own {rp : Repetition} {rs : List Resource} {cn : String} {cr : List (String × ResTy)}
    (hit : rp.seq.iteratorOK = true) (hok : rs.all (repResourceOK cn cr) = true) :
    OwnErrors (processRepeatedResources rp rs [(cn, cr)]) := by
  rw [processRepeatedResources_single, hok]
  refine .foldlM _ fun acc nt _ e he => ?_
  rcases repResStep_error he with h | h | ⟨m, rfl⟩
  · exact (getSum_getProd_own hit).1 e h
  · exact (getSum_getProd_own hit).2 e h
  · rfl

theorem repResStep_am {rp : Repetition} {cn n : String} {acc acc' : List Resource} {nt : String × ResTy}
    (h : repResStep rp cn acc nt = .ok acc') (hor : (∃ y ∈ acc, y.name = n ∧ y.ty.isAM = true) ∨ nt.1 = n ∧ nt.2.isAM = true) :
    ∃ y ∈ acc', y.name = n ∧ y.ty.isAM = true := by
  rcases repResStep_ok h with ⟨v, hv, rfl⟩ | ⟨hq, _, rfl⟩
  · -- the resource just set is additive/multiplicative, so it may stand for the one it replaced
    have hz : nt.1 = n → ∃ y ∈ Resource.set acc ⟨nt.1, nt.2, v⟩, y.name = n ∧ y.ty.isAM = true := fun hn =>
      ⟨_, Resource.mem_set_self acc _, hn, hv.elim (fun h => h.1 ▸ rfl) fun h => h.1 ▸ rfl⟩
    rcases hor with ⟨y, hy, hy1, hy2⟩ | ⟨hn, _⟩
    · exact (Resource.mem_set_of_mem _ hy).elim (fun h => ⟨y, h, hy1, hy2⟩) fun e => hz (e.symm.trans hy1)
    · exact hz hn
  · rcases hor with h1 | ⟨_, hn2⟩
    · exact h1
    · rw [hq] at hn2; cases hn2

theorem processRepeatedResources_am {rp : Repetition} {rs : List Resource} {cn : String} {cr : List (String × ResTy)}
    {out : List Resource} (h : processRepeatedResources rp rs [(cn, cr)] = .ok out) (n : String)
    (hn : ∃ nt ∈ cr, nt.1 = n ∧ nt.2.isAM = true) : ∃ y ∈ out, y.name = n ∧ y.ty.isAM = true := by
  obtain ⟨_, _, hsig, _, h⟩ := processRepeatedResources_ok h
  cases hsig
  obtain ⟨nt, hm, hnt⟩ := hn
  exact foldlM_except_of_mem _ _ nt (fun _ _ h => repResStep_am h (.inr hnt)) (fun _ _ _ hy h => repResStep_am h (.inl hy)) cr hm [] out h

theorem compileChildren_length {C : Comparator} : ∀ {ch : List Routine} {conns : List (Endpoint × Endpoint)} {path : String}
    {pm pm' : PTree} {ccs : List CRoutine}, compileChildren C conns path pm ch = .ok (pm', ccs) → ccs.length = ch.length
  | [], _, _, _, _, _, h => by rw [(compileChildren_nil h).2]; rfl
  | _ :: cs, _, _, _, _, _, h => by
    obtain ⟨cc, upd, ccs', _, _, hrest, rfl⟩ := compileChildren_cons_iff.mp h
    simp [compileChildren_length hrest]

mutual
/-- **a compiled node carries an additive/multiplicative resource under every name of `amNames`** -/
theorem compile_am (C : Comparator) : ∀ (r : Routine) (inputs : Dict Expr) (path : String) (c : CRoutine),
    compile C inputs path r = .ok c → ∀ n ∈ r.amNames, ∃ x ∈ c.resources, x.name = n ∧ x.ty.isAM = true
  | ⟨name, ty, ips, lvs, lks, ps, rs, cs, rep, cons, ch, ord⟩, inputs, path, c, h, n, hn => by
    obtain ⟨t, rfl⟩ := compile_ok_iff.mp h
    have hres : ∃ x ∈ t.res, x.name = n ∧ x.ty.isAM = true := by
      rcases repStep_ok t.hrep with ⟨hrep, hres, _⟩ | ⟨rp, _, hrep, hrs', _, _⟩
      · cases (show rep = none from hrep)
        obtain ⟨x, hx, hx3⟩ := List.mem_map.mp hn
        exact ⟨x, hres ▸ (List.mem_filter.mp hx).1, hx3, (List.mem_filter.mp hx).2⟩
      · cases (show rep = some rp from hrep)
        obtain ⟨cc, hccs, x, hx, hx1, hx2⟩ := compileChildren_am C ch cs path _ t.pm2 t.ccs t.hch n hn
        rw [hccs] at hrs'
        exact processRepeatedResources_am hrs' n ⟨(x.name, x.ty), List.mem_map.mpr ⟨x, hx, rfl⟩, hx1, hx2⟩
    obtain ⟨x, hx, hx1, hx2⟩ := hres
    exact ⟨_, List.mem_map.mpr ⟨x, hx, rfl⟩, hx1, hx2⟩
theorem compileChildren_am (C : Comparator) : ∀ (ch : List Routine) (conns : List (Endpoint × Endpoint)) (path : String)
    (pm pm' : PTree) (ccs : List CRoutine), compileChildren C conns path pm ch = .ok (pm', ccs) →
    ∀ n ∈ Routine.amNamesOnly ch, ∃ cc, ccs = [cc] ∧ ∃ x ∈ cc.resources, x.name = n ∧ x.ty.isAM = true
  | [k], conns, path, pm, pm', ccs, h, n, hn => by
    obtain ⟨cc, upd, ccs', hcc, _, hrest, hccs⟩ := compileChildren_cons_iff.mp h
    cases (compileChildren_nil hrest).2
    exact ⟨cc, hccs, compile_am C k _ _ cc hcc n hn⟩
  | [], _, _, _, _, _, _, n, hn => nomatch hn
  | _ :: _ :: _, _, _, _, _, _, _, n, hn => nomatch hn
end

theorem Routine.sound_node {r : Routine} (h : r.sound = true) :
    localOrder r.localVars ≠ none ∧
    (∀ rp, r.rep = some rp → rp.seq.iteratorOK = true ∧ ∃ k, r.children = [k] ∧ ∀ x ∈ r.resources,
      (match x.value with | .sym s => s == k.name ++ "." ++ x.name | _ => false) = true ∧ x.name ∈ k.amNames) ∧
    (∀ c ∈ r.conns, c.1.routine = none → ∃ p ∈ Port.portsOf r.ports [.input, .through], p.name = c.1.port) ∧
    (∀ c ∈ r.conns, ∀ n, c.1.routine = some n → ∀ k ∈ r.children, k.name = n → ∃ p ∈ k.ports, p.name = c.1.port) ∧
    Routine.soundList r.children = true := by
  obtain ⟨_, _, _, lvs, _, ps, rs, cs, rep, _, ch, _⟩ := r
  -- unfolded by `rfl`: the equation lemma `simp only [Routine.sound]` would ask for is slow to generate
  replace h : (_ && _ && _ && _) = true := h
  simp only [Bool.and_eq_true, Option.isSome_iff_ne_none, ne_eq, List.all_eq_true] at h
  obtain ⟨⟨⟨hlo, hrep⟩, hcs⟩, hch⟩ := h
  refine ⟨hlo, ?_, fun c hc hr => ?_, fun c hc n hn k hk hkn => ?_, hch⟩
  · rintro rp ⟨⟩
    simp only [Bool.and_eq_true] at hrep
    match ch, hrep.2 with
    | [k], hone =>
      simp only [List.all_eq_true, Bool.and_eq_true, List.contains_iff_mem] at hone
      exact ⟨hrep.1, k, rfl, hone⟩
  · simpa only [hr, List.any_eq_true, beq_iff_eq] using hcs c hc
  · have := hcs c hc
    simp only [hn, List.all_eq_true, Bool.or_eq_true, bne_iff_ne, ne_eq, List.any_eq_true, beq_iff_eq] at this
    exact (this k hk).resolve_left fun h1 => h1 hkn

mutual
/-- **`_compile` fails only with its own error classes** on soundly wired trees (repetitions of every kind included) -/
theorem compile_no_internal (C : Comparator) : ∀ (r : Routine) (inputs : Dict Expr) (path : String), r.sound = true →
    OwnErrors (compile C inputs path r)
  | ⟨name, ty, ips, lvs, lks, ps, rs, cs, rep, cons, ch, ord⟩, inputs, path, hs => by
    obtain ⟨hlo, hrep, hself, hkids, hch⟩ := Routine.sound_node hs
    rw [compile]
    refine .bind (compileLocalVariables_own hlo) fun lv _ => .bind (evaluateConstraints_own _ _ _ _) fun nc _ => .bind ?ports fun upd _ =>
      .bind (fun e => compileChildren_no_internal C ch cs path _ e hch hkids) fun x hchildren => .bind ?repetition fun _ _ => .pure _
    case ports =>
      -- every connection leaving the routine's own boundary starts at one of its compiled input/through ports
      exact paramTreeFromCompiledPorts_own fun c hc hr => let ⟨p, hp1, hp2⟩ := hself c hc hr; ⟨_, List.mem_map_of_mem hp1, hp2⟩
    case repetition =>
      -- the wrapper's assertions hold because the compiled child carries what the source promises
      cases rep with
      | none => exact .pure _
      | some rp =>
        obtain ⟨hit, k, hk, hone⟩ := hrep rp rfl
        cases (show ch = [k] from hk)
        refine .bind ?_ fun _ _ => .bind (substituteSymbols_own _ rp) fun _ _ => .pure _
        obtain ⟨pm2, ccs⟩ := x
        obtain ⟨cc, _, _, hcc, _, hrest, rfl⟩ := compileChildren_cons_iff.mp hchildren
        cases (compileChildren_nil hrest).2
        have hnm : cc.name = k.name := by
          obtain ⟨t, rfl⟩ := compile_ok_iff.mp hcc
          rfl
        refine processRepeatedResources_own hit (List.all_eq_true.mpr fun r hr => ?_)
        obtain ⟨x, hx, hx1, _⟩ := compile_am C k _ _ cc hcc r.name (hone r hr).2
        simp only [repResourceOK, Bool.and_eq_true, List.any_eq_true, List.mem_map, decide_eq_true_eq]
        exact ⟨⟨(x.name, x.ty), ⟨x, hx, rfl⟩, hx1⟩, hnm ▸ (hone r hr).1⟩
/-- the same for a list of children, spelled out (`OwnErrors` unfolded, the error an argument); the second hypothesis is what
    `Routine.sound` says of the wires that leave these children -/
theorem compileChildren_no_internal (C : Comparator) : ∀ (ch : List Routine) (conns : List (Endpoint × Endpoint)) (path : String)
    (pm : PTree) (e : Err), Routine.soundList ch = true →
    (∀ c ∈ conns, ∀ n, c.1.routine = some n → ∀ k ∈ ch, k.name = n → ∃ p ∈ k.ports, p.name = c.1.port) →
    compileChildren C conns path pm ch = .error e → e.isInternal = false
  | [], _, _, _, _, _, _, h => (Except.pure_ne_error.mp h).elim
  | k :: ks, conns, path, pm, e, hs, hw, h => by
    simp only [Routine.soundList, Bool.and_eq_true] at hs
    rw [compileChildren] at h
    refine OwnErrors.bind (compile_no_internal C k _ _ hs.1) (fun cc hcc => .bind ?ports fun upd _ => .bind ?rest fun _ _ => .pure _) e h
    case ports =>
      -- every connection leaving the child starts at one of its ports, and compilation keeps the ports
      exact paramTreeFromCompiledPorts_own fun c hc hr => compile_has_port hcc (hw c hc k.name hr k List.mem_cons_self rfl)
    case rest =>
      exact fun e => compileChildren_no_internal C ks conns path _ e hs.2 fun c hc n hn k' hk' => hw c hc n hn k' (List.mem_cons_of_mem _ hk')
end

mutual
/-- **`evaluate` fails only with bartiq's own error class**: a violated constraint or a guarded iterator clash, at any node of the hierarchy -/
theorem evaluateInternal_no_internal (C : Comparator) (σ : Dict Expr) (fn : Expr → Expr) : ∀ (c : CRoutine) (path : String),
    OwnErrors (evaluateInternal C σ fn path c)
  | ⟨name, ty, ips, ps, rs, cs, rep, cons, ch, ord⟩, path => by
    simp only [evaluateInternal]
    refine .bind (evaluateConstraints_own _ _ _ _) fun _ _ => .bind ?_ fun _ _ =>
      .bind (fun e => evaluateInternalList_no_internal C σ fn ch path e) fun _ _ => .pure _
    cases rep with
    | none => exact .pure _
    | some rp => exact .bind (substituteSymbols_own σ rp) fun _ _ => .pure _
theorem evaluateInternalList_no_internal (C : Comparator) (σ : Dict Expr) (fn : Expr → Expr) : ∀ (cs : List CRoutine) (path : String) (e : Err),
    evaluateInternalList C σ fn path cs = .error e → e.isInternal = false
  | [], _, e, h => (Except.pure_ne_error.mp h).elim
  | c :: cs, path, e, h => by
    rw [evaluateInternalList] at h
    exact OwnErrors.bind (evaluateInternal_no_internal C σ fn c _)
      (fun _ _ => .bind (fun e => evaluateInternalList_no_internal C σ fn cs path e) fun _ _ => .pure _) e h
end

end Bartiq
