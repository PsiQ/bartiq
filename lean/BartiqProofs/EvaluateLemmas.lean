/-
  Lemmas about `evaluate` (Pipeline.lean): it depends on the assignment only through three observations
  (lookup, "is a key", "occurs in a value"), it rewrites ports/resources by simultaneous substitution at
  every node, and the remaining input parameters are computed per node.
-/
import BartiqModel.Pipeline
import BartiqProofs.DictLemmas
import BartiqProofs.ExprLemmas
import BartiqProofs.ExceptLemmas
namespace Bartiq
open Expr

theorem evaluateConstraint_eq (C : Comparator) (c : Constraint) (σ : Dict Expr) :
    evaluateConstraint C c σ = match C (Expr.subst σ c.lhs) (Expr.subst σ c.rhs) with
      | .equal => .ok ⟨Expr.subst σ c.lhs, Expr.subst σ c.rhs, .satisfied⟩
      | .unequal => .error (c, ⟨Expr.subst σ c.lhs, Expr.subst σ c.rhs, .violated⟩)
      | .ambiguous => .ok ⟨Expr.subst σ c.lhs, Expr.subst σ c.rhs, .inconclusive⟩ := by
  unfold evaluateConstraint
  split <;> simp [*]

/-- what `evaluate` observes of an assignment -/
structure SameAssignment (σ σ' : Dict Expr) : Prop where
  lookup : ∀ x, σ.get? x = σ'.get? x
  inValue : ∀ s, s ∈ σ.values.flatMap Expr.fv ↔ s ∈ σ'.values.flatMap Expr.fv
  isKey : ∀ s, s ∈ σ.keys ↔ s ∈ σ'.keys

theorem SameAssignment.subst {σ σ' : Dict Expr} (h : SameAssignment σ σ') (e : Expr) : Expr.subst σ e = Expr.subst σ' e :=
  subst_congr_lookup h.lookup e

theorem SameAssignment.contains {σ σ' : Dict Expr} (h : SameAssignment σ σ') (p : String) : σ.contains p = σ'.contains p := by
  simp [Dict.contains, h.lookup]

theorem evaluatePorts_congr {σ σ' : Dict Expr} (h : SameAssignment σ σ') (ps : List Port) :
    evaluatePorts ps σ = evaluatePorts ps σ' := by
  simp only [evaluatePorts, h.subst]

theorem evaluateResources_congr {σ σ' : Dict Expr} (h : SameAssignment σ σ') (rs : List Resource) :
    evaluateResources rs σ = evaluateResources rs σ' := by
  simp only [evaluateResources, h.subst]

theorem evaluateConstraints_congr (C : Comparator) {σ σ' : Dict Expr} (h : SameAssignment σ σ') (cs : List Constraint) (path : String) :
    evaluateConstraints C cs σ path = evaluateConstraints C cs σ' path := by
  simp only [evaluateConstraints, evaluateConstraint_eq, h.subst]

theorem Seq.substituteSymbols_congr {σ σ' : Dict Expr} (h : SameAssignment σ σ') (s : Seq) :
    s.substituteSymbols σ = s.substituteSymbols σ' := by
  have hs : Expr.subst σ = Expr.subst σ' := funext h.subst
  have herase : ∀ nm, Expr.subst (σ.erase nm) = Expr.subst (σ'.erase nm) := fun nm =>
    funext (subst_erase_congr fun x _ => h.lookup x)
  have hguard : ∀ it, ((σ.values.flatMap Expr.fv).contains it || σ.keys.contains it) =
      ((σ'.values.flatMap Expr.fv).contains it || σ'.keys.contains it) := fun it => by
    rw [Bool.eq_iff_iff]
    simp only [Bool.or_eq_true, List.contains_iff_mem, h.inValue it, h.isKey it]
  cases s with
  | closedForm s p n => cases n <;> simp only [Seq.substituteSymbols, hs, herase]
  | custom t i => cases i <;> simp only [Seq.substituteSymbols, hs, hguard]
  | _ => simp only [Seq.substituteSymbols, hs]

theorem Repetition.substituteSymbols_congr {σ σ' : Dict Expr} (h : SameAssignment σ σ') (r : Repetition) :
    r.substituteSymbols σ = r.substituteSymbols σ' := by
  simp [Repetition.substituteSymbols, Seq.substituteSymbols_congr h, h.subst]

mutual
theorem evaluateInternal_congr (C : Comparator) {σ σ' : Dict Expr} (h : SameAssignment σ σ') (fn : Expr → Expr) :
    ∀ (c : CRoutine) (path : String), evaluateInternal C σ fn path c = evaluateInternal C σ' fn path c
  | ⟨n, ty, ips, ps, rs, cs, rep, cons, ch, ord⟩, path => by
    simp only [evaluateInternal, evaluateConstraints_congr _ h, evaluateInternalList_congr C h fn ch path,
      evaluatePorts_congr h, evaluateResources_congr h, h.contains, Repetition.substituteSymbols_congr h]
theorem evaluateInternalList_congr (C : Comparator) {σ σ' : Dict Expr} (h : SameAssignment σ σ') (fn : Expr → Expr) :
    ∀ (cs : List CRoutine) (path : String), evaluateInternalList C σ fn path cs = evaluateInternalList C σ' fn path cs
  | [], _ => rfl
  | c :: cs, path => by
    rw [evaluateInternalList, evaluateInternalList, evaluateInternal_congr C h fn c, evaluateInternalList_congr C h fn cs path]
end

theorem SameAssignment.of_perm {σ σ' : Dict Expr} (hp : σ.Perm σ') (hn : (σ.map (·.1)).Nodup) : SameAssignment σ σ' where
  lookup := Dict.get?_perm hp hn
  inValue := fun _ => ((hp.map _).flatMap_right _).mem_iff
  isKey := fun _ => (hp.map _).mem_iff

theorem Dict.DEq.sameAssignment {σ σ' : Dict Expr} (h : Dict.DEq σ σ') : SameAssignment σ σ' := SameAssignment.of_perm h.perm h.nodup

/-- ports and resources of every node -/
inductive ETree where
  | node (ports : List Port) (resources : List Resource) (children : List ETree)

mutual
def CRoutine.etree : CRoutine → ETree
  | ⟨_, _, _, ps, rs, _, _, _, ch, _⟩ => .node ps rs (CRoutine.etreeList ch)
def CRoutine.etreeList : List CRoutine → List ETree
  | [] => []
  | c :: cs => c.etree :: CRoutine.etreeList cs
end

mutual
def ETree.mapExpr (f : Expr → Expr) : ETree → ETree
  | .node ps rs ch => .node (ps.map fun p => { p with size := f p.size }) (rs.map fun r => { r with value := f r.value }) (ETree.mapExprList f ch)
def ETree.mapExprList (f : Expr → Expr) : List ETree → List ETree
  | [] => []
  | t :: ts => t.mapExpr f :: ETree.mapExprList f ts
end

mutual
theorem ETree.mapExpr_id : ∀ (t : ETree) (f : Expr → Expr), (∀ e, f e = e) → t.mapExpr f = t
  | .node ps rs ch, f, hf => by
    simp only [ETree.mapExpr, hf, ETree.mapExprList_id ch f hf]
    simp
theorem ETree.mapExprList_id : ∀ (ts : List ETree) (f : Expr → Expr), (∀ e, f e = e) → ETree.mapExprList f ts = ts
  | [], _, _ => rfl
  | t :: ts, f, hf => by simp only [ETree.mapExprList, ETree.mapExpr_id t f hf, ETree.mapExprList_id ts f hf]
end

mutual
theorem ETree.mapExpr_comp : ∀ (t : ETree) (f g : Expr → Expr), (t.mapExpr f).mapExpr g = t.mapExpr (fun e => g (f e))
  | .node ps rs ch, f, g => by
    simp only [ETree.mapExpr, List.map_map, ETree.mapExprList_comp ch f g]
    rfl
theorem ETree.mapExprList_comp : ∀ (ts : List ETree) (f g : Expr → Expr),
    ETree.mapExprList g (ETree.mapExprList f ts) = ETree.mapExprList (fun e => g (f e)) ts
  | [], _, _ => rfl
  | t :: ts, f, g => by simp only [ETree.mapExprList, ETree.mapExpr_comp t f g, ETree.mapExprList_comp ts f g]
end

theorem ETree.mapExpr_congr {f g : Expr → Expr} (h : ∀ e, f e = g e) (t : ETree) : t.mapExpr f = t.mapExpr g := by
  rw [funext h]

theorem ETree.mapExprList_congr : ∀ (ts : List ETree) (f g : Expr → Expr), (∀ e, f e = g e) →
    ETree.mapExprList f ts = ETree.mapExprList g ts :=
  fun ts f g h => by rw [funext h]

/-- input parameters of every node -/
inductive ITree where
  | node (inputParams : List String) (children : List ITree)

mutual
def CRoutine.itree : CRoutine → ITree
  | ⟨_, _, ips, _, _, _, _, _, ch, _⟩ => .node ips (CRoutine.itreeList ch)
def CRoutine.itreeList : List CRoutine → List ITree
  | [] => []
  | c :: cs => c.itree :: CRoutine.itreeList cs
end

mutual
def ITree.map (f : List String → List String) : ITree → ITree
  | .node ips ch => .node (f ips) (ITree.mapList f ch)
def ITree.mapList (f : List String → List String) : List ITree → List ITree
  | [] => []
  | t :: ts => t.map f :: ITree.mapList f ts
end

theorem evaluateInternal_ok {C : Comparator} {σ : Dict Expr} {fn : Expr → Expr} {path : String} {c c' : CRoutine}
    (h : evaluateInternal C σ fn path c = .ok c') :
    ∃ ch', evaluateInternalList C σ fn path c.children = .ok ch' ∧ c'.children = ch' ∧
      c'.inputParams = dedupSorted (c.inputParams.filter fun p => !σ.contains p) ∧
      c'.ports = (evaluatePorts c.ports σ).map (fun p => { p with size := fn p.size }) ∧
      c'.resources = (evaluateResources c.resources σ).map (fun r => { r with value := fn r.value }) := by
  obtain ⟨n, ty, ips, ps, rs, cs, rep, cons, ch, ord⟩ := c
  simp only [evaluateInternal, Except.bind_eq_ok, Except.pure_eq_ok] at h
  obtain ⟨_, _, _, _, ch', hch, rfl⟩ := h
  exact ⟨ch', hch, rfl, rfl, rfl, rfl⟩

theorem evaluateInternalList_cons_ok {C : Comparator} {σ : Dict Expr} {fn : Expr → Expr} {path : String} {c : CRoutine}
    {cs cs' : List CRoutine} (h : evaluateInternalList C σ fn path (c :: cs) = .ok cs') :
    ∃ c1 cs1, evaluateInternal C σ fn (path ++ "." ++ c.name) c = .ok c1 ∧ evaluateInternalList C σ fn path cs = .ok cs1 ∧
      cs' = c1 :: cs1 := by
  simp only [evaluateInternalList, Except.bind_eq_ok, Except.pure_eq_ok] at h
  obtain ⟨c1, hc1, cs1, hcs1, rfl⟩ := h
  exact ⟨c1, cs1, hc1, hcs1, rfl⟩

mutual
theorem evaluateInternal_etree (C : Comparator) (σ : Dict Expr) (fn : Expr → Expr) :
    ∀ (c : CRoutine) (path : String) (c' : CRoutine), evaluateInternal C σ fn path c = .ok c' →
      c'.etree = c.etree.mapExpr (fun e => fn (Expr.subst σ e))
  | ⟨n, ty, ips, ps, rs, cs, rep, cons, ch, ord⟩, path, ⟨_, _, _, _, _, _, _, _, _, _⟩, h => by
    obtain ⟨ch', hch, rfl, _, rfl, rfl⟩ := evaluateInternal_ok h
    simp only [CRoutine.etree, ETree.mapExpr, evaluateInternalList_etree C σ fn ch path _ hch, evaluatePorts, evaluateResources,
      List.map_map, Function.comp_def]
theorem evaluateInternalList_etree (C : Comparator) (σ : Dict Expr) (fn : Expr → Expr) :
    ∀ (cs : List CRoutine) (path : String) (cs' : List CRoutine), evaluateInternalList C σ fn path cs = .ok cs' →
      CRoutine.etreeList cs' = ETree.mapExprList (fun e => fn (Expr.subst σ e)) (CRoutine.etreeList cs)
  | [], _, cs', h => by cases Except.pure_eq_ok.mp h; rfl
  | c :: cs, path, cs', h => by
    obtain ⟨c1, cs1, hc1, hcs1, rfl⟩ := evaluateInternalList_cons_ok h
    rw [CRoutine.etreeList, CRoutine.etreeList, ETree.mapExprList, evaluateInternal_etree C σ fn c _ c1 hc1,
      evaluateInternalList_etree C σ fn cs path cs1 hcs1]
end

mutual
theorem evaluateInternal_itree (C : Comparator) (σ : Dict Expr) (fn : Expr → Expr) :
    ∀ (c : CRoutine) (path : String) (c' : CRoutine), evaluateInternal C σ fn path c = .ok c' →
      c'.itree = c.itree.map (fun ips => dedupSorted (ips.filter fun p => !σ.contains p))
  | ⟨n, ty, ips, ps, rs, cs, rep, cons, ch, ord⟩, path, ⟨_, _, _, _, _, _, _, _, _, _⟩, h => by
    obtain ⟨ch', hch, rfl, rfl, _, _⟩ := evaluateInternal_ok h
    simp only [CRoutine.itree, ITree.map, evaluateInternalList_itree C σ fn ch path _ hch]
theorem evaluateInternalList_itree (C : Comparator) (σ : Dict Expr) (fn : Expr → Expr) :
    ∀ (cs : List CRoutine) (path : String) (cs' : List CRoutine), evaluateInternalList C σ fn path cs = .ok cs' →
      CRoutine.itreeList cs' = ITree.mapList (fun ips => dedupSorted (ips.filter fun p => !σ.contains p)) (CRoutine.itreeList cs)
  | [], _, cs', h => by cases Except.pure_eq_ok.mp h; rfl
  | c :: cs, path, cs', h => by
    obtain ⟨c1, cs1, hc1, hcs1, rfl⟩ := evaluateInternalList_cons_ok h
    rw [CRoutine.itreeList, CRoutine.itreeList, ITree.mapList, evaluateInternal_itree C σ fn c _ c1 hc1,
      evaluateInternalList_itree C σ fn cs path cs1 hcs1]
end

end Bartiq
