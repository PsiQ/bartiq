/-
  Computations in `Except` (the model's rendering of Python exceptions): what a successful or failed `>>=`, `mapM`, `foldlM` went
  through.  Core Lean only.
-/
namespace Bartiq
variable {ε α β γ : Type}

namespace Except

@[simp] theorem pure_eq_ok {a b : α} : (pure a : Except ε α) = .ok b ↔ a = b := ⟨Except.ok.inj, congrArg _⟩
@[simp] theorem pure_ne_error {a : α} {e : ε} : (pure a : Except ε α) = .error e ↔ False := ⟨nofun, nofun⟩
@[simp] theorem throw_eq_error {e e' : ε} : (throw e : Except ε α) = .error e' ↔ e = e' := ⟨Except.error.inj, congrArg _⟩
@[simp] theorem throw_ne_ok {a : α} {e : ε} : (throw e : Except ε α) = .ok a ↔ False := ⟨nofun, nofun⟩

theorem bind_eq_ok {x : Except ε α} {f : α → Except ε β} {b : β} : (x >>= f) = .ok b ↔ ∃ a, x = .ok a ∧ f a = .ok b := by
  cases x with
  | error e => exact ⟨nofun, nofun⟩
  | ok a => exact ⟨fun h => ⟨a, rfl, h⟩, fun ⟨_, ha, h⟩ => Except.ok.inj ha ▸ h⟩

theorem bind_eq_error {x : Except ε α} {f : α → Except ε β} {e : ε} :
    (x >>= f) = .error e ↔ x = .error e ∨ ∃ a, x = .ok a ∧ f a = .error e := by
  cases x with
  | error e' =>
    exact ⟨fun h => .inl (congrArg _ (Except.error.inj h)),
      fun h => h.elim (fun h => congrArg _ (Except.error.inj h)) fun ⟨_, ha, _⟩ => nomatch ha⟩
  | ok a => exact ⟨fun h => .inr ⟨a, rfl, h⟩, fun h => h.elim nofun fun ⟨_, ha, h⟩ => Except.ok.inj ha ▸ h⟩

theorem bind_congr {x : Except ε α} {f g : α → Except ε β} (h : ∀ a, x = .ok a → f a = g a) : (x >>= f) = (x >>= g) := by
  cases x with
  | error e => rfl
  | ok a => exact h a rfl

end Except

theorem mapM_ok_mem (f : α → Except ε β) : ∀ (l : List α) (r : List β), l.mapM f = .ok r → ∀ y ∈ r, ∃ x ∈ l, f x = .ok y
  | [], r, h, y, hy => by rw [List.mapM_nil, Except.pure_eq_ok] at h; subst h; cases hy
  | a :: l, r, h, y, hy => by
    simp only [List.mapM_cons, Except.bind_eq_ok, Except.pure_eq_ok] at h
    obtain ⟨b, hb, bs, hbs, rfl⟩ := h
    rcases List.mem_cons.mp hy with rfl | hy'
    · exact ⟨a, List.mem_cons_self, hb⟩
    · obtain ⟨x, hx, hfx⟩ := mapM_ok_mem f l bs hbs y hy'
      exact ⟨x, List.mem_cons_of_mem _ hx, hfx⟩

theorem mapM_error (f : α → Except ε β) : ∀ (l : List α) (e : ε), l.mapM f = .error e → ∃ a ∈ l, f a = .error e
  | [], e, h => by rw [List.mapM_nil, Except.pure_ne_error] at h; exact h.elim
  | a :: l, e, h => by
    rw [List.mapM_cons] at h
    rcases Except.bind_eq_error.mp h with h1 | ⟨b, _, h2⟩
    · exact ⟨a, List.mem_cons_self, h1⟩
    · rcases Except.bind_eq_error.mp h2 with h3 | ⟨bs, _, h4⟩
      · obtain ⟨x, hx, hfx⟩ := mapM_error f l e h3
        exact ⟨x, List.mem_cons_of_mem _ hx, hfx⟩
      · exact (Except.pure_ne_error.mp h4).elim

theorem mapM_map (g : α → Except ε β) (h : α → Except ε γ) (φ : β → γ)
    (hgh : ∀ x, h x = (g x).map φ) : ∀ (l : List α), l.mapM h = (l.mapM g).map (List.map φ)
  | [] => rfl
  | x :: xs => by
    simp only [List.mapM_cons, hgh x, mapM_map g h φ hgh xs]
    cases g x with
    | error e => rfl
    | ok b => cases List.mapM g xs <;> rfl

theorem foldlM_except_inv (P : β → Prop) (f : β → α → Except ε β)
    (hf : ∀ b a b', P b → f b a = .ok b' → P b') :
    ∀ (l : List α) (b b' : β), P b → l.foldlM f b = .ok b' → P b'
  | [], b, b', hb, h => by rw [List.foldlM_nil, Except.pure_eq_ok] at h; exact h ▸ hb
  | a :: l, b, b', hb, h => by
    rw [List.foldlM_cons] at h
    obtain ⟨b1, h1, h2⟩ := Except.bind_eq_ok.mp h
    exact foldlM_except_inv P f hf l b1 b' (hf b a b1 hb h1) h2

theorem foldlM_error (f : β → α → Except ε β) : ∀ (l : List α) (b : β) (e : ε),
    l.foldlM f b = .error e → ∃ b' a, a ∈ l ∧ f b' a = .error e
  | [], b, e, h => by rw [List.foldlM_nil, Except.pure_ne_error] at h; exact h.elim
  | a :: l, b, e, h => by
    rw [List.foldlM_cons] at h
    rcases Except.bind_eq_error.mp h with h1 | ⟨b1, _, h2⟩
    · exact ⟨b, a, List.mem_cons_self, h1⟩
    · obtain ⟨b', a', ha', hf⟩ := foldlM_error f l b1 e h2
      exact ⟨b', a', List.mem_cons_of_mem _ ha', hf⟩

theorem foldlM_except_of_mem (P : β → Prop) (f : β → α → Except ε β) (x : α)
    (hx : ∀ b b', f b x = .ok b' → P b') (hf : ∀ b a b', P b → f b a = .ok b' → P b') :
    ∀ (l : List α), x ∈ l → ∀ (b b' : β), l.foldlM f b = .ok b' → P b'
  | a :: l, h, b, b', hok => by
    rw [List.foldlM_cons] at hok
    obtain ⟨b1, hfa, hrest⟩ := Except.bind_eq_ok.mp hok
    rcases List.mem_cons.mp h with rfl | hl
    · exact foldlM_except_inv P f hf l b1 b' (hx b b1 hfa) hrest
    · exact foldlM_except_of_mem P f x hx hf l hl b1 b' hrest

end Bartiq
