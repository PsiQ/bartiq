/-
  C05 — Evaluation is simultaneous substitution, composable and order-free.
  Model: `evaluate` / `evaluateInternal` (BartiqModel/Pipeline.lean), tied to `compilation/_evaluate.py` by the
  correspondence of harness/props/c05.py.  PARTIAL: the final rounding of folded numbers to 15 significant
  digits (IEEE / mpmath) is not modelled; `C05_numeric_exact` is about exact values.  `functions_map` is modelled as the
  bottom-up rewriting `Expr.defineFn` (BartiqModel/Functions.lean) with implementations given as parameter list + body.
-/
import BartiqProofs.ExprLemmas
import BartiqProofs.EvaluateLemmas
import BartiqProofs.FunctionLemmas
namespace Bartiq
open Expr

/-- the result does not depend on the order in which assignments are listed -/
theorem C05_order_free (C : Comparator) (c : CRoutine) (σ σ' : Dict Expr)
    (hp : σ.Perm σ') (hn : (σ.map (·.1)).Nodup) : evaluate C c σ = evaluate C c σ' :=
  evaluateInternal_congr C (SameAssignment.of_perm hp hn) id c c.name

/-- everywhere in the hierarchy (ports and resources of every node) each assigned input is replaced, all at once -/
theorem C05_everywhere (C : Comparator) (c c' : CRoutine) (σ : Dict Expr) (h : evaluate C c σ = .ok c') :
    c'.etree = c.etree.mapExpr (Expr.subst σ) :=
  evaluateInternal_etree C σ id c c.name c' h

/-- an empty assignment changes no port size and no resource anywhere -/
theorem C05_empty (C : Comparator) (c c' : CRoutine) (h : evaluate C c [] = .ok c') : c'.etree = c.etree := by
  rw [C05_everywhere C c c' [] h]
  exact ETree.mapExpr_id _ _ subst_nil

/-- unassigned inputs are untouched: an expression none of whose symbols is assigned is left as it is -/
theorem C05_unassigned_untouched (σ : Dict Expr) (e : Expr) (h : ∀ x ∈ fv e, σ.get? x = none) : Expr.subst σ e = e :=
  substF_of_disjoint e σ.get? h

/-- the remaining input parameters of every node are exactly those not assigned -/
theorem C05_remaining_inputs (C : Comparator) (c c' : CRoutine) (σ : Dict Expr) (h : evaluate C c σ = .ok c') :
    c'.itree = c.itree.map (fun ips => dedupSorted (ips.filter fun p => !σ.contains p)) :=
  evaluateInternal_itree C σ id c c.name c' h

/-- evaluating in two steps, the first with closed (numeric) values, gives every node the port sizes and resources of
    evaluating once with the union (where that succeeds too) -/
theorem C05_staged (C : Comparator) (c c₁ c₂ c₁₂ : CRoutine) (σ₁ σ₂ : Dict Expr)
    (hnum : ∀ kv ∈ σ₁, fv kv.2 = [])
    (h1 : evaluate C c σ₁ = .ok c₁) (h2 : evaluate C c₁ σ₂ = .ok c₂) (h12 : evaluate C c (σ₁ ++ σ₂) = .ok c₁₂) :
    c₂.etree = c₁₂.etree := by
  rw [C05_everywhere C c₁ c₂ σ₂ h2, C05_everywhere C c c₁ σ₁ h1, C05_everywhere C c c₁₂ _ h12, ETree.mapExpr_comp]
  exact ETree.mapExpr_congr (fun e => subst_staged σ₁ σ₂ e hnum) _

/-- with the inputs assigned, the value of the evaluated expression is the value of the original expression at the
    assigned values (exact, for every interpretation of the operators and functions); `NoCapture` holds whenever the
    assigned values are closed -/
theorem C05_numeric_exact {V : Type} (A : Alg V) (σ : Dict Expr) (ρ : Env V) (e : Expr) (h : NoCapture σ.get? e) :
    eval A ρ (Expr.subst σ e) = eval A (under A ρ σ.get?) e := eval_subst A σ ρ e h

/-- user-supplied implementations are applied after the substitution, at every node: every port size and resource is
    `defineFns fns (subst σ e)` (constraints and repetition fields are not spoken of) -/
theorem C05_functions_everywhere (C : Comparator) (c c' : CRoutine) (σ : Dict Expr) (fns : List FnImpl)
    (h : evaluateWith C c σ fns = .ok c') : c'.etree = c.etree.mapExpr (fun e => defineFns fns (Expr.subst σ e)) :=
  evaluateInternal_etree C σ (defineFns fns) c c.name c' h

/-- … and ONE implementation reaches every call of its name inside such an expression — nested in itself, inside other
    calls, inside sums: no call of the name is left (the body does not call the name again; calls with another number of
    arguments are what the real wrapper leaves unevaluated, excluded by `arityOK`).  In a list, a later implementation may
    still put calls of an earlier name back. -/
theorem C05_functions_reach_every_call (I : FnImpl) (hb : I.name ∉ heads I.body) (e : Expr) (ha : arityOK I e = true) :
    I.name ∉ heads (defineFn I e) := defineFn_no_calls I hb e ha

/-- … and what is put in place of the calls is the implementation's value: in every interpretation `A` of the remaining
    operators and functions, the rewritten expression has exactly the value (or undefinedness) of the original expression
    read with the names interpreted by the implementations (`Alg.withFns`); implementations are closed formulas in their
    parameters (`FnImpl.Plain`) -/
theorem C05_functions_are_interpretation {V : Type} (A : Alg V) (fns : List FnImpl) (hp : ∀ I ∈ fns, I.Plain)
    (ρ : Env V) (e : Expr) : eval A ρ (defineFns fns e) = eval (A.withFns fns) ρ e := eval_defineFns fns hp A e ρ

-- non-vacuity: g(x) = 2x+3 is a plain implementation, g(g(-3)) has the right arities, and the rewriting yields -3 (the
-- input on which the unrepaired code returned g(-3), finding F15)
def gImpl : FnImpl := ⟨"g", ["x"], .bin .add (.bin .mul (.num 2) (.sym "x")) (.num 3)⟩
example : gImpl.Plain := ⟨by simp [gImpl, binders], by simp [gImpl, fv], by simp [gImpl, fv], by simp [gImpl]⟩
example : "g" ∉ heads gImpl.body := by simp [gImpl, heads]
example : arityOK gImpl (.app "g" [.app "g" [.num (-3)]]) = true := by decide
example : eval Alg.rat (fun _ => none) (defineFn gImpl (.app "g" [.app "g" [.num (-3)]])) = some (-3) := by decide +kernel

-- non-vacuity: a concrete assignment with two keys, one value mentioning the other key, and its permutation
example : ([("N", Expr.bin .add (.sym "M") (.num 1)), ("M", .num 3)] : Dict Expr).Perm [("M", .num 3), ("N", Expr.bin .add (.sym "M") (.num 1))] :=
  List.Perm.swap _ _ _
example : ((([("N", Expr.num 1), ("M", .num 3)] : Dict Expr)).map (·.1)).Nodup := by decide

end Bartiq
