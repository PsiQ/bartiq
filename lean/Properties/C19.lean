/-
  C19 — Big-O analysis returns the dominant power.
  Model: `leadingTerms` (BartiqModel/Analysis.lean) = `_get_leading_terms` on the exponent vectors that
  `sympy.Poly(expr, x).terms()` returns.  External contract (checked on every sample by harness/props/c19.py): for one
  generator, `terms()` lists the exponents of the non-zero terms in strictly decreasing order.
-/
import BartiqModel.Analysis
namespace Bartiq

def keepStep (kept : List (List Nat)) (t : List Nat) : List (List Nat) := if leAllOthers t kept then kept else kept ++ [t]

theorem leAllOthers_iff {t : List Nat} {kept : List (List Nat)} :
    leAllOthers t kept = true ↔ kept ≠ [] ∧ ∀ k ∈ kept, termLe t k = true := by
  simp [leAllOthers]

theorem leadingTerms_cons (t : List Nat) (ts : List (List Nat)) : leadingTerms (t :: ts) = ts.foldl keepStep [t] := rfl

theorem mem_keepStep_of_mem {kept : List (List Nat)} {t k : List Nat} (h : k ∈ kept) : k ∈ keepStep kept t := by
  unfold keepStep
  split
  · exact h
  · exact List.mem_append_left _ h

theorem mem_keepStep {kept : List (List Nat)} {t k : List Nat} (h : k ∈ keepStep kept t) : k ∈ kept ∨ k = t := by
  unfold keepStep at h
  split at h
  · exact Or.inl h
  · simpa using h

theorem mem_foldl_keepStep_of_mem (ts : List (List Nat)) (kept : List (List Nat)) (t : List Nat) (h : t ∈ kept) :
    t ∈ ts.foldl keepStep kept := by
  induction ts generalizing kept with
  | nil => exact h
  | cons a as ih => exact ih _ (mem_keepStep_of_mem h)

/-- a power that bounds every kept power is kept when it comes up: were it ≤ all kept terms, it would be one of them -/
theorem max_mem_keepStep (d : Nat) (kept : List (List Nat)) (hk : ∀ k ∈ kept, ∃ e, k = [e] ∧ e ≤ d) :
    [d] ∈ keepStep kept [d] := by
  unfold keepStep
  split
  next h =>
    obtain ⟨hne, hall⟩ := leAllOthers_iff.mp h
    obtain ⟨k, hkm⟩ := List.exists_mem_of_ne_nil _ hne
    obtain ⟨e, rfl, he⟩ := hk k hkm
    have hde : d ≤ e := by simpa [termLe] using hall [e] hkm
    exact Nat.le_antisymm he hde ▸ hkm
  · exact List.mem_append_right _ (List.mem_singleton_self _)

theorem leadingFold_max (d : Nat) (ts : List Nat) (kept : List (List Nat))
    (hk : ∀ k ∈ kept, ∃ e, k = [e] ∧ e ≤ d) (hts : ∀ e ∈ ts, e ≤ d) (hd : d ∈ ts ∨ [d] ∈ kept) :
    [d] ∈ (ts.map fun e => [e]).foldl keepStep kept := by
  induction ts generalizing kept with
  | nil => simpa using hd
  | cons a as ih =>
    refine ih _ (fun k hk' => ?_) (fun e he => hts e (List.mem_cons_of_mem _ he)) ?_
    · rcases mem_keepStep hk' with h | rfl
      · exact hk k h
      · exact ⟨a, rfl, hts a List.mem_cons_self⟩
    · rcases hd with hd | hd
      · rcases List.mem_cons.mp hd with rfl | hd
        · exact Or.inr (max_mem_keepStep d kept hk)
        · exact Or.inl hd
      · exact Or.inr (mem_keepStep_of_mem hd)

/-- whatever the ORDER in which `terms()` lists them: the largest exponent present is among the terms BigO reports —
    the leading power is never dropped (no contract about the order needed) -/
theorem C19_leading_power_never_dropped (d : Nat) (ts : List Nat) (hd : d ∈ ts) (hmax : ∀ e ∈ ts, e ≤ d) :
    [d] ∈ leadingTerms (ts.map fun e => [e]) :=
  leadingFold_max d ts [] (by simp) hmax (Or.inl hd)

example : [5] ∈ leadingTerms ([[1], [5], [3]]) := C19_leading_power_never_dropped 5 [1, 5, 3] (by simp) (by simp)

/-- the result is never empty for a non-empty term list (a polynomial always has at least the term of its degree;
    the zero polynomial has the single term of exponent 0): BigO never returns an empty sum -/
theorem C19_result_nonempty (t : List Nat) (ts : List (List Nat)) : leadingTerms (t :: ts) ≠ [] :=
  leadingTerms_cons t ts ▸ List.ne_nil_of_mem (mem_foldl_keepStep_of_mem ts [t] t List.mem_cons_self)

theorem foldl_keeps_degree (d : Nat) : ∀ (rest : List Nat), (∀ e ∈ rest, e ≤ d) →
    (rest.map fun e => [e]).foldl keepStep [[d]] = [[d]]
  | [], _ => rfl
  | e :: es, h => by
    rw [List.map_cons, List.foldl_cons, keepStep, if_pos (by simp [leAllOthers, termLe, h e List.mem_cons_self])]
    exact foldl_keeps_degree d es (fun x hx => h x (List.mem_cons_of_mem _ hx))

/-- for a univariate polynomial whose first listed exponent is the largest (as in a weakly decreasing listing) only that
    one — the degree — is kept: lower-order terms never appear, the leading power is never dropped -/
theorem C19_univariate (d : Nat) (rest : List Nat) (h : ∀ e ∈ rest, e ≤ d) :
    leadingTerms (([d] :: rest.map fun e => [e])) = [[d]] :=
  (leadingTerms_cons _ _).trans (foldl_keeps_degree d rest h)

/-- `Poly.terms()` of a univariate polynomial lists each exponent of a non-zero term once, in decreasing order: the
    result is exactly the first of them, the degree -/
theorem C19_strictly_decreasing (d : Nat) (rest : List Nat) (h : List.Pairwise (· > ·) (d :: rest)) :
    leadingTerms ((d :: rest).map fun e => [e]) = [[d]] :=
  C19_univariate d rest (fun _ he => Nat.le_of_lt (List.rel_of_pairwise_cons h he))

/-- a constant (only the exponent 0) gives the single term of degree 0, i.e. O(1) -/
theorem C19_constant : leadingTerms [[0]] = [[0]] := by decide

/-- the filter relies on the order of `terms()`: on an increasing list lower powers survive -/
theorem C19_needs_order : leadingTerms [[1], [3]] = [[1], [3]] := by decide

example : leadingTerms [[4], [2], [0]] = [[4]] := by decide

end Bartiq
