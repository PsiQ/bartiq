/-
  C04 — Compiled routines are closed over the top-level inputs.
  Proved here: the closure step that `_compile` applies to every resource, port size and constraint side (a substituted
  expression only mentions symbols of the scope's values, provided every symbol of the source expression is declared in the
  scope); internal names (local variables, port variables, `child.resource` references) are KEYS of the scope and hence never
  survive; a total numeric assignment leaves no symbol.  WHOLE HIERARCHY (C04_hierarchy_closed_partial): well-scopedness is
  stated semantically — the bottom-up reading of the (preprocessed) routine is defined everywhere as soon as exactly the names of
  G are given, i.e. it never looks up a name nobody declared — and the refinement theorem of C01, instantiated with the one-point
  interpretation (BartiqProofs/Scoping.lean), turns it into: every port size and every resource of every node of the compiled
  hierarchy mentions only names of G.  PARTIAL: `plainB` as in C01 (no closed-form/custom sequences, no user-written sum_over);
  repetition fields and retained constraints are inspected by the oracle of harness/props/c04.py only.
-/
import BartiqProofs.Refinement
import BartiqProofs.SortLemmas
import BartiqProofs.Scoping
namespace Bartiq
open Expr

/-- closure step (resources, port sizes, constraint sides, local-variable definitions alike) -/
theorem C04_substitution_closes (d : Dict Expr) (e : Expr) (G : List String)
    (hd : ∀ kv ∈ d, ∀ x ∈ fv kv.2, x ∈ G) (he : ∀ x ∈ fv e, d.get? x ≠ none ∨ x ∈ G) :
    ∀ x ∈ fv (Expr.subst d e), x ∈ G := fv_subst_closed d e G hd he

/-- no internal name survives: a key of the scope (local variable, port variable `#p`, `child.resource`) occurs in the
    substituted expression only if some VALUE of the scope mentions it -/
theorem C04_no_internal_names (d : Dict Expr) (e : Expr) (k : String) (hk : d.get? k ≠ none)
    (hvals : ∀ kv ∈ d, k ∉ fv kv.2) : k ∉ fv (Expr.subst d e) := by
  intro hx
  rcases fv_substF e d.get? k hx with ⟨_, h2⟩ | ⟨y, t, _, hσ, hxt⟩
  · exact hk h2
  · exact hvals (y, t) (Dict.get?_some_mem d y t hσ) hxt

/-- every resource of a compiled (non-repeated) node is the source resource substituted in the node's final scope, hence
    closed over whatever that scope's values are closed over -/
theorem C04_node_resources_closed (C : Comparator) (r : Routine) (inputs : Dict Expr) (path : String) (c : CRoutine)
    (h : compile C inputs path r = .ok c) (hrep : r.rep = none) (G : List String) :
    ∃ scope : Dict Expr, c.resources = evaluateResources r.resources scope ∧
      ((∀ kv ∈ scope, ∀ x ∈ fv kv.2, x ∈ G) → (∀ res ∈ r.resources, ∀ x ∈ fv res.value, scope.get? x ≠ none ∨ x ∈ G) →
        ∀ res ∈ c.resources, ∀ x ∈ fv res.value, x ∈ G) := by
  obtain ⟨t, rfl⟩ := compile_ok_iff.mp h
  rcases repStep_ok t.hrep with ⟨_, hres, _⟩ | ⟨rp, _, hrp, _⟩
  · have hcr : t.result.resources = evaluateResources r.resources (Dict.merge t.pm2.self (childrenVariables t.ccs)) :=
      congrArg (evaluateResources · _) hres
    refine ⟨_, hcr, fun hd he res hres x hx => ?_⟩
    obtain ⟨r0, hr0, rfl⟩ := List.mem_map.mp (hcr ▸ hres)
    exact fv_subst_closed _ r0.value G hd (he r0 hr0) x hx
  · rw [hrep] at hrp; cases hrp

/-- assigning closed values (numbers) to every symbol of an expression leaves no symbol: it is a number-valued expression -/
theorem C04_total_numeric (d : Dict Expr) (e : Expr) (hnum : ∀ kv ∈ d, fv kv.2 = []) (hall : ∀ x ∈ fv e, d.get? x ≠ none) :
    fv (Expr.subst d e) = [] :=
  List.eq_nil_iff_forall_not_mem.mpr fun x hx => List.not_mem_nil
    (fv_subst_closed d e [] (fun kv hkv _ hx => hnum kv hkv ▸ hx) (fun x hx => .inl (hall x hx)) x hx)

/-- each node lists among its input parameters every symbol its ports use -/
theorem C04_node_lists_port_symbols (C : Comparator) (r : Routine) (inputs : Dict Expr) (path : String) (c : CRoutine)
    (h : compile C inputs path r = .ok c) : ∀ p ∈ c.ports, ∀ x ∈ fv p.size, x ∈ c.inputParams := by
  obtain ⟨t, rfl⟩ := compile_ok_iff.mp h
  exact fun p hp x hx => mem_dedupSorted.mpr (List.mem_append_right _ (List.mem_flatMap.mpr ⟨p, hp, hx⟩))

/-- the same below any node, for whatever its parent hands down: the values given to the node's inputs count as given -/
theorem C04_subtree_closed_partial (C : Comparator) (r : Routine) (σ : Dict Expr) (c : CRoutine) (path : String) (G : List String)
    (h : compile C σ path r = .ok c) (hp : plainB r = true)
    (hws : ∃ nv, denoteV unitAlg (envOf G) (σ.mapVal (eval unitAlg (envOf G))) r = some nv ∧ nv.allDefined = true) :
    c.closedOver G := by
  obtain ⟨nv, hnv, hall⟩ := hws
  rw [compile_refines_denoteV unitAlg (envOf G) C r σ path c h hp] at hnv
  cases hnv
  exact closed_of_allDefined G c hall

/-- **the whole compiled hierarchy is closed over the top-level inputs** (the root is handed nothing): if the bottom-up reading of the routine is defined
    everywhere when exactly the names of `G` are given (well-scopedness: no name is used that nobody declares), then every port
    size and every resource of every node of the compiled hierarchy mentions only names of `G` — no port variable, local
    variable or `child.resource` reference survives anywhere -/
theorem C04_hierarchy_closed_partial (C : Comparator) (r : Routine) (c : CRoutine) (path : String) (G : List String)
    (h : compile C [] path r = .ok c) (hp : plainB r = true)
    (hws : ∃ nv, denoteV unitAlg (envOf G) [] r = some nv ∧ nv.allDefined = true) : c.closedOver G :=
  C04_subtree_closed_partial C r [] c path G h hp hws

-- non-vacuity: root(N) with local v = N + 1, child a(n := v) with resource T = 2·n, root resource T = a.T + v
def wsExample : Routine :=
  ⟨"root", none, ["N"], [("v", .bin .add (.sym "N") (.num 1))], [("v", [("a", "n")])], [], [⟨"T", .additive, .bin .add (.sym "a.T") (.sym "v")⟩], [],
    none, [], [⟨"a", none, ["n"], [], [], [], [⟨"T", .additive, .bin .mul (.num 2) (.sym "n")⟩], [], none, [], [], []⟩], ["a"]⟩
example : (denoteV unitAlg (envOf ["N"]) [] wsExample).map NVal.allDefined = some true := by decide
-- … and the hypothesis fails when a name nobody declares is used: the same routine read with nothing given
example : (denoteV unitAlg (envOf []) [] wsExample).map NVal.allDefined = some false := by decide

end Bartiq
