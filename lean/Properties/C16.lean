/-
  C16 — Qubit highwater is the maximum over all cuts.
  The running-flow loop of `calculate_highwater` (active flow; per child: watermark = active − inflow + child highwater, then
  active := active − inflow + outflow; finally the outflow) is modelled over an arbitrary ordered additive group and proved
  equal, watermark by watermark, to the CUT formulation: during child j the wires alive are exactly those whose source lies
  before j and whose target lies after j (plus the routine's own through ports).  Hypotheses are those of the property: fully
  wired (each port's size is the total size of the wires attached to it — equal ends by C02), children in chronological order
  (every wire goes forward).  The tie between this numeric loop and `calculate_highwater` is the oracle/correspondence of
  harness/props/c16.py, which recomputes every node's highwater by cut enumeration.
-/
import BartiqModel.Highwater
import Mathlib.Algebra.Order.Group.Defs
import Mathlib.Algebra.BigOperators.Group.List.Basic
import Mathlib.Tactic.Abel
namespace Bartiq

variable {K : Type} [AddCommGroup K]

/-- a wire: positions 0 = the routine's input side, j+1 = child j, n+1 = the routine's output side -/
structure Wire (K : Type) where
  src : Nat
  tgt : Nat
  size : K

def S (ws : List (Wire K)) (P : Wire K → Prop) [DecidablePred P] : K := (ws.map fun w => if P w then w.size else 0).sum

theorem S_congr (ws : List (Wire K)) (P Q : Wire K → Prop) [DecidablePred P] [DecidablePred Q]
    (h : ∀ w ∈ ws, (P w ↔ Q w)) : S ws P = S ws Q :=
  congrArg List.sum (List.map_congr_left fun w hw => if_congr (h w hw) rfl rfl)

theorem S_eq_zero (ws : List (Wire K)) (P : Wire K → Prop) [DecidablePred P] (h : ∀ w ∈ ws, ¬ P w) : S ws P = 0 := by
  refine List.sum_eq_zero fun x hx => ?_
  obtain ⟨w, hw, rfl⟩ := List.mem_map.mp hx
  exact if_neg (h w hw)

theorem S_split (ws : List (Wire K)) {R P Q : Wire K → Prop} [DecidablePred R] [DecidablePred P] [DecidablePred Q]
    (h : ∀ w ∈ ws, (R w ↔ P w ∨ Q w) ∧ ¬ (P w ∧ Q w)) : S ws R = S ws P + S ws Q := by
  unfold S
  rw [← List.sum_map_add]
  refine congrArg List.sum (List.map_congr_left fun w hw => ?_)
  obtain ⟨hr, hd⟩ := h w hw
  by_cases hp : P w
  · simp [hr, hp, show ¬ Q w from fun hq => hd ⟨hp, hq⟩]
  · simp [hr, hp]

theorem S_le_succ (ws : List (Wire K)) (f : Wire K → Nat) (j : Nat) :
    S ws (fun w => f w ≤ j + 1) = S ws (fun w => f w ≤ j) + S ws (fun w => f w = j + 1) :=
  S_split ws fun w _ => by omega

theorem S_alive (ws : List (Wire K)) (hfw : ∀ w ∈ ws, w.src < w.tgt) (j : Nat) :
    S ws (fun w => w.src ≤ j) = S ws (fun w => w.src ≤ j ∧ j + 1 < w.tgt) + S ws (fun w => w.tgt ≤ j + 1) :=
  S_split ws fun w hw => by have := hfw w hw; omega

/-- the watermarks in the cut formulation: alive during child `j` are the wires with source at a position ≤ j and target
    beyond j+1 -/
def cuts (ws : List (Wire K)) (thru outR : K) : List (ChildFlow K) → Nat → List K
  | [], _ => [outR]
  | c :: cs, j => (thru + S ws (fun w => w.src ≤ j ∧ j + 1 < w.tgt) + c.hw) :: cuts ws thru outR cs (j + 1)

/-- **flow invariant and main theorem**: with every wire going forward and every child's in/outflow the total of its
    wires, the loop's watermarks ARE the cut values, for every suffix of the children -/
theorem watermarks_eq_cuts (ws : List (Wire K)) (thru outR : K)
    (hfw : ∀ w ∈ ws, w.src < w.tgt) :
    ∀ (cs : List (ChildFlow K)) (j : Nat) (active : K),
      (∀ (i : Nat) (c : ChildFlow K), cs[i]? = some c →
        c.inflow = S ws (fun w => w.tgt = j + i + 1) ∧ c.outflow = S ws (fun w => w.src = j + i + 1)) →
      active = thru + S ws (fun w => w.src ≤ j) - S ws (fun w => w.tgt ≤ j) →
      watermarks outR cs active = cuts ws thru outR cs j := by
  intro cs
  induction cs with
  | nil => intros; rfl
  | cons c cs ih =>
    intro j active hcs hact
    obtain ⟨hin, hout⟩ := hcs 0 c rfl
    have htgt := S_le_succ ws (·.tgt) j
    have hsrc := S_le_succ ws (·.src) j
    simp only [watermarks, cuts]
    congr 1
    · rw [hact, hin, S_alive ws hfw j, htgt]; abel
    · refine ih (j + 1) _ (fun i c' hi => ?_) ?_
      · rw [Nat.add_right_comm j 1 i]; exact hcs (i + 1) c' hi
      · rw [hact, hin, hout, hsrc, htgt]; abel

variable [LinearOrder K]

omit [AddCommGroup K] in
theorem le_maxOf (x : K) (xs : List K) : ∀ y ∈ x :: xs, y ≤ maxOf x xs := by
  induction xs generalizing x with
  | nil => simp [maxOf]
  | cons z zs ih =>
    -- `maxOf x (z :: zs)` unfolds to `maxOf (max x z) zs`
    obtain ⟨h, ht⟩ := List.forall_mem_cons.mp (ih (max x z))
    exact List.forall_mem_cons.mpr ⟨le_trans (le_max_left x z) h, List.forall_mem_cons.mpr ⟨le_trans (le_max_right x z) h, ht⟩⟩

/-- **C16**: the derived highwater is the local ancillae plus the maximum over the moments before the first child (total
    input size), during each child (wires alive at that moment + the child's own highwater) and after the last child -/
theorem C16_highwater_is_max_cut (ws : List (Wire K)) (thru anc inR outR : K) (cs : List (ChildFlow K))
    (hfw : ∀ w ∈ ws, w.src < w.tgt)
    (hin : inR = thru + S ws (fun w => w.src = 0))
    (hcs : ∀ (i : Nat) (c : ChildFlow K), cs[i]? = some c →
      c.inflow = S ws (fun w => w.tgt = i + 1) ∧ c.outflow = S ws (fun w => w.src = i + 1)) :
    highwaterNum anc inR outR cs = anc + maxOf inR (cuts ws thru outR cs 0) := by
  unfold highwaterNum
  rw [watermarks_eq_cuts ws thru outR hfw cs 0 inR (by simpa only [Nat.zero_add] using hcs)]
  -- before the first child, the wires that started are those from the input side, and none has ended
  rw [hin, S_congr ws (fun w => w.src ≤ 0) (fun w => w.src = 0) fun w _ => Nat.le_zero,
    S_eq_zero ws (fun w => w.tgt ≤ 0) fun w hw h => by have := hfw w hw; omega, sub_zero]

theorem add_le_highwaterNum [IsOrderedAddMonoid K] (anc inR outR : K) (cs : List (ChildFlow K)) (y : K)
    (hy : y ∈ inR :: watermarks outR cs inR) : anc + y ≤ highwaterNum anc inR outR cs :=
  add_le_add_right (le_maxOf inR _ y hy) anc

theorem C16_ge_input [IsOrderedAddMonoid K] (anc inR outR : K) (cs : List (ChildFlow K)) :
    anc + inR ≤ highwaterNum anc inR outR cs :=
  add_le_highwaterNum anc inR outR cs inR List.mem_cons_self

omit [LinearOrder K] in
theorem watermarks_last (outR : K) : ∀ (cs : List (ChildFlow K)) (active : K), outR ∈ watermarks outR cs active
  | [], _ => List.mem_singleton_self outR
  | _ :: cs, _ => List.mem_cons_of_mem _ (watermarks_last outR cs _)

theorem C16_ge_output [IsOrderedAddMonoid K] (anc inR outR : K) (cs : List (ChildFlow K)) :
    anc + outR ≤ highwaterNum anc inR outR cs :=
  add_le_highwaterNum anc inR outR cs outR (List.mem_cons_of_mem _ (watermarks_last outR cs inR))

/-- never smaller than any child's highwater plus the wires bypassing that child; `heq` is the conclusion of
    `C16_highwater_is_max_cut` -/
theorem C16_ge_child_plus_bypass [IsOrderedAddMonoid K] (ws : List (Wire K)) (thru anc inR outR : K) (cs : List (ChildFlow K)) (x : K)
    (hx : x ∈ cuts ws thru outR cs 0) (heq : highwaterNum anc inR outR cs = anc + maxOf inR (cuts ws thru outR cs 0)) :
    anc + x ≤ highwaterNum anc inR outR cs := by
  rw [heq]
  exact add_le_add_right (le_maxOf inR _ x (List.mem_cons_of_mem _ hx)) anc

/-! ### the code drops watermarks equal to 0 before taking the maximum: harmless on non-negative sizes -/

theorem foldl_max_filter_zero (l : List K) (acc : K) (hacc : 0 ≤ acc) :
    (l.filter (fun w => w ≠ 0)).foldl max acc = l.foldl max acc := by
  induction l generalizing acc with
  | nil => rfl
  | cons w ws ih =>
    by_cases hw : w = 0
    · simpa [hw, max_eq_left hacc] using ih acc hacc
    · simpa [hw] using ih (max acc w) (le_trans hacc (le_max_left acc w))

theorem maxOf_eq_foldl_zero (x : K) (xs : List K) (hx : 0 ≤ x) : maxOf x xs = (x :: xs).foldl max 0 := by
  rw [List.foldl_cons, max_eq_right hx, maxOf]

/-- **the literal code = `highwaterNum`** (the cut formula's value, by `C16_highwater_is_max_cut`) whenever no watermark is
    negative (sizes and highwaters are qubit counts): dropping the zero watermarks, and returning the ancillae alone when
    nothing is left, changes nothing -/
theorem C16_zero_filter_harmless (anc inR outR : K) (cs : List (ChildFlow K))
    (hnn : ∀ w ∈ inR :: watermarks outR cs inR, 0 ≤ w) :
    highwaterImpl anc inR outR cs = highwaterNum anc inR outR cs := by
  unfold highwaterImpl highwaterNum
  rw [maxOf_eq_foldl_zero inR _ (hnn inR List.mem_cons_self), ← foldl_max_filter_zero _ 0 le_rfl]
  cases hf : (inR :: watermarks outR cs inR).filter (fun w => w ≠ 0) with
  | nil => simp
  | cons w ws => exact congrArg _ (maxOf_eq_foldl_zero w ws (hnn w (List.mem_filter.mp (hf ▸ List.mem_cons_self)).1))

-- the hypothesis is needed: with a negative "size" the literal code and `highwaterNum` differ
example : highwaterImpl (0 : Int) (-1) 0 [] = -1 ∧ highwaterNum (0 : Int) (-1) 0 [] = 0 := by decide
-- and it is satisfiable
example : (∀ w ∈ (3 : Int) :: watermarks 2 [⟨3, 2, 5⟩] 3, 0 ≤ w) ∧ highwaterImpl (1 : Int) 3 2 [⟨3, 2, 5⟩] = 6 := by decide

-- non-vacuity of `hfw`
example : (∀ w ∈ ([⟨0, 1, 3⟩, ⟨1, 2, 2⟩] : List (Wire Int)), w.src < w.tgt) := by decide

end Bartiq
