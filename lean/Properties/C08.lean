/-
  C08 — Additive and multiplicative resources accumulate up the hierarchy.
  The preprocessing stage `propagate_child_resources` gives a routine that lacks an additive (multiplicative) resource
  some children have the expression  c₁.res + c₂.res + …  (c₁.res · c₂.res · …) over EXACTLY those children; an explicit
  definition is never touched (C10_propagation_only_adds); by the refinement theorem (C01) each `cᵢ.res` then takes the
  child's own compiled value, so the compiled value is the algebra's sum (product) of the children's values.
-/
import BartiqModel.Denote
import BartiqProofs.DictLemmas
import Properties.C10
import Mathlib.Algebra.Ring.Nat
namespace Bartiq
open Expr
variable {V : Type}

/-- the algebra's own addition / multiplication on possibly undefined values -/
def optBin (A : Alg V) (op : BinOp) (a b : Option V) : Option V := a.bind fun x => b.bind fun y => A.bin op x y

theorem eval_foldl_bin (A : Alg V) (ρ : Env V) (op : BinOp) : ∀ (es : List Expr) (acc : Expr),
    eval A ρ (es.foldl (Expr.bin op) acc) = es.foldl (fun v e => optBin A op v (eval A ρ e)) (eval A ρ acc)
  | [], _ => rfl
  | e :: es, acc => eval_foldl_bin A ρ op es (.bin op acc e)

/-- the value of the default expression is the sum of the values of its terms, for every interpretation -/
theorem C08_sumOf_is_sum (A : Alg V) (ρ : Env V) (e : Expr) (es : List Expr) :
    eval A ρ (sumOf (e :: es)) = es.foldl (fun v x => optBin A .add v (eval A ρ x)) (eval A ρ e) :=
  eval_foldl_bin A ρ .add es e

theorem C08_prodOf_is_product (A : Alg V) (ρ : Env V) (e : Expr) (es : List Expr) :
    eval A ρ (prodOf (e :: es)) = es.foldl (fun v x => optBin A .mul v (eval A ρ x)) (eval A ρ e) :=
  eval_foldl_bin A ρ .mul es e

/-- a term `child.res` of the default expression takes the child's own value (the scope holds the children's values) -/
theorem C08_child_reference_is_child_value (top : Env V) (d : VDict V) (c res : String) (v : Option V)
    (h : d.get? (c ++ "." ++ res) = some v) : scopeOf top d (c ++ "." ++ res) = v := by
  simp [scopeOf, h]

theorem foldl_append_flatMap {α β γ : Type} (L : β → List γ) (f : β → α → β) (g : α → List γ)
    (h : ∀ acc a, L (f acc a) = L acc ++ g a) : ∀ (as : List α) (acc : β), L (as.foldl f acc) = L acc ++ as.flatMap g
  | [], acc => by simp
  | a :: as, acc => by rw [List.foldl_cons, foldl_append_flatMap L f g h as, h, List.flatMap_cons, List.append_assoc]

theorem childResMap_get? (children : List Routine) (ty : ResTy) (n : String) :
    ((childResMap children ty).get? n).getD [] =
      children.flatMap fun c => c.resources.flatMap fun r => if r.name = n ∧ r.ty = ty then [c.name] else [] := by
  refine (foldl_append_flatMap (fun acc : Dict (List String) => (acc.get? n).getD []) _ _ (fun acc c => ?_) children []).trans
    (List.nil_append _)
  refine foldl_append_flatMap (fun acc : Dict (List String) => (acc.get? n).getD []) _ _ (fun acc r => ?_) c.resources acc
  by_cases hty : r.ty = ty
  · rw [if_pos hty, Dict.get?_set]
    by_cases hn : r.name = n
    · rw [if_pos hn, if_pos ⟨hn, hty⟩, hn]
      rfl
    · rw [if_neg hn, if_neg fun h => hn h.1, List.append_nil]
  · rw [if_neg hty, if_neg fun h => hty h.2, List.append_nil]

def hasRes (c : Routine) (n : String) (ty : ResTy) : Prop := ∃ res ∈ c.resources, res.name = n ∧ res.ty = ty

/-- **exactly those children**: the children listed for a resource name are precisely the children that have a resource of
    that name and type -/
theorem C08_exactly_those_children (children : List Routine) (ty : ResTy) (n : String) (x : String) :
    x ∈ ((childResMap children ty).get? n).getD [] ↔ ∃ c ∈ children, c.name = x ∧ hasRes c n ty := by
  rw [childResMap_get?]
  simp only [List.mem_flatMap, hasRes]
  constructor
  · rintro ⟨c, hc, r, hr, hx⟩
    split at hx
    · exact ⟨c, hc, (List.mem_singleton.mp hx).symm, r, hr, ‹_›⟩
    · cases hx
  · rintro ⟨c, hc, rfl, r, hr, h⟩
    exact ⟨c, hc, r, hr, by rw [if_pos h]; exact List.mem_singleton_self _⟩

/-- an explicit definition takes precedence: the stage leaves every resource the routine defines itself untouched -/
theorem C08_explicit_wins (r : Routine) (x : Resource) (hx : x ∈ r.resources) : x ∈ (propagateChildResourcesStep r).resources := by
  obtain ⟨extra, h⟩ := C10_propagation_only_adds r
  rw [h]; exact List.mem_append_left _ hx

/-! ### the "consequently" clause: from node-by-node accumulation to the flat sum over leaves

  The theorems above say what ONE node gets: the sum of its children's values (default propagation), or — for a repetition
  wrapper — its child's value times the sequence's sum (C07_model_*).  The clause "when only leaves define an additive resource,
  the top-level value equals the sum over all leaves of the leaf value weighted by the repetition sums of its repeated ancestors"
  is the algebraic consequence of applying that at every level; it is proved here for value trees over any commutative semiring
  (the tie of the premises to the code is the refinement theorem C01 + the oracle's flat-sum check on real compiled trees). -/

/-- the values the hierarchy computes level by level: a leaf's own value, a plain node's sum over its children, a repetition
    wrapper's child value times the weight of its sequence -/
inductive WTree (R : Type) where
  | leaf (v : R)
  | node (children : List (WTree R))
  | rep (weight : R) (child : WTree R)

namespace WTree
variable {R : Type} [CommSemiring R]

mutual
/-- bottom-up, one level at a time (what compilation does) -/
def value : WTree R → R
  | leaf v => v
  | node cs => valueList cs
  | rep w c => w * value c
def valueList : List (WTree R) → R
  | [] => 0
  | c :: cs => value c + valueList cs
end

mutual
/-- all leaves with the product of the weights of their repeated ancestors -/
def leaves : R → WTree R → List (R × R)
  | acc, leaf v => [(acc, v)]
  | acc, node cs => leavesList acc cs
  | acc, rep w c => leaves (acc * w) c
def leavesList : R → List (WTree R) → List (R × R)
  | _, [] => []
  | acc, c :: cs => leaves acc c ++ leavesList acc cs
end

/-- the flat sum: every leaf value weighted by the repetition sums above it -/
def flat (t : WTree R) : R := ((leaves 1 t).map fun p => p.1 * p.2).sum

mutual
theorem flat_aux : ∀ (t : WTree R) (acc : R), ((leaves acc t).map fun p => p.1 * p.2).sum = acc * value t
  | leaf v, acc => by simp [leaves, value]
  | node cs, acc => by simp only [leaves, value]; exact flatList_aux cs acc
  | rep w c, acc => by simp only [leaves, value]; rw [flat_aux c (acc * w), mul_assoc]
theorem flatList_aux : ∀ (cs : List (WTree R)) (acc : R), ((leavesList acc cs).map fun p => p.1 * p.2).sum = acc * valueList cs
  | [], acc => by simp [leavesList, valueList]
  | c :: cs, acc => by
    simp only [leavesList, valueList, List.map_append, List.sum_append]
    rw [flat_aux c acc, flatList_aux cs acc, mul_add]
end

end WTree

/-- **the top-level value equals the sum over all leaves of the leaf value weighted by the repetition sums of its repeated
    ancestors** — for every hierarchy shape and depth, over any commutative semiring -/
theorem C08_top_level_is_weighted_leaf_sum {R : Type} [CommSemiring R] (t : WTree R) : t.value = t.flat := by
  unfold WTree.flat
  rw [WTree.flat_aux t 1, one_mul]

-- non-vacuity: root{ leaf 3, rep×4{ node{ leaf 5, leaf 1 } } } = 3 + 4·5 + 4·1 = 27 over ℕ
example : (WTree.node [.leaf 3, .rep 4 (.node [.leaf 5, .leaf 1])] : WTree Nat).value = 27 := by decide

end Bartiq
