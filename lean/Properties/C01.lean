/-
  C01 — Compilation preserves the meaning of every resource.

  Main theorem (Layer B): on the preprocessed hierarchy, for EVERY interpretation of the operators and functions and
  EVERY point ρ of the compiled inputs, the values of the compiled tree are the values the value-level evaluator
  `denoteV` (BartiqModel/Denote.lean: no substitution anywhere; names are looked up per scope, children's values
  flow along links, wires and `child.resource` references) computes from the source.
  PARTIAL (named so): `plainB` admits repetition wrappers with constant, arithmetic and geometric sequences (the wrapper's
  resources are then the closed forms of `get_sum`/`get_prod` over the child's VALUE, which C07_model_* equate with the unrolled
  sums); it excludes closed-form and custom sequences and user-written sum_over/prod_over (expressions that bind an iterator).
  Those are covered by the correspondence and by the oracle.  That the value-level evaluator on
  the preprocessed routine agrees with the declarative bottom-up reading of the SOURCE document (preprocessing stages,
  child order) is checked by differential execution (driver command `denote` vs harness/refsem.py), not proved.
-/
import BartiqModel.Pipeline
import BartiqProofs.Refinement
namespace Bartiq
open Expr

variable {V : Type}

/-- **compile refines the value-level reading** (any depth, fan-out, wiring, links, locals, shared names) -/
theorem C01_compile_refines_reading_partial (A : Alg V) (ρ : Env V) (C : Comparator) (r : Routine) (c : CRoutine)
    (path : String) (h : compile C [] path r = .ok c) (hp : plainB r = true) :
    denoteV A ρ [] r = some (evalTree A ρ c) :=
  compile_refines_denoteV A ρ C r [] path c h hp

/-- the same below the root: a subroutine compiled with the values `σ` handed down by its ancestors means what the
    evaluator computes when handed the VALUES of `σ` -/
theorem C01_subroutine_refines_reading_partial (A : Alg V) (ρ : Env V) (C : Comparator) (r : Routine) (σ : Dict Expr)
    (c : CRoutine) (path : String) (h : compile C σ path r = .ok c) (hp : plainB r = true) :
    denoteV A ρ (σ.mapVal (eval A ρ)) r = some (evalTree A ρ c) :=
  compile_refines_denoteV A ρ C r σ path c h hp

/-- through the whole pipeline: verification, the preprocessing stages read from the source, child ordering, `_compile` -/
theorem C01_pipeline_refines_reading_partial (A : Alg V) (ρ : Env V) (C : Comparator) (stages : List Stage) (skip : Bool)
    (q : Routine) (c : CRoutine) (h : compileRoutineWith stages C skip q = .ok c) :
    ∃ r, (preprocessWith stages q >>= sortTree) = .ok r ∧ (plainB r = true → denoteV A ρ [] r = some (evalTree A ρ c)) := by
  simp only [compileRoutineWith, Except.bind_eq_ok] at h ⊢
  obtain ⟨_, _, r1, hr1, r2, hr2, h⟩ := h
  exact ⟨r2, ⟨r1, hr1, hr2⟩, C01_compile_refines_reading_partial A ρ C r2 c _ h⟩

/-- the elementary step, with no restriction on the expression language other than the capture guard: a substituted
    expression means the original read in the scope -/
theorem C01_resource_step (A : Alg V) (σ : Dict Expr) (ρ : Env V) (e : Expr) (h : NoCapture σ.get? e) :
    eval A ρ (Expr.subst σ e) = eval A (under A ρ σ.get?) e := eval_subst A σ ρ e h

/-- a parameter nobody links becomes a top-level input named by its path: `promote_unlinked_inputs` adds the input
    `child.param` to the parent together with the link `child.param → (child, param)` -/
theorem C01_unlinked_becomes_path_input (r : Routine) (c : Routine) (p : String) (hc : c ∈ r.children) (hp : p ∈ c.inputParams)
    (hun : (c.name, p) ∉ r.linked.flatMap (·.2)) :
    (c.name ++ "." ++ p) ∈ (promoteUnlinkedInputsStep r).inputParams := by
  refine List.mem_append_right _ (Dict.mem_keys_merge.mpr (.inr (List.mem_map.mpr ⟨(c.name ++ "." ++ p, [(c.name, p)]), ?_, rfl⟩)))
  simp only [List.mem_flatMap, List.mem_map, List.mem_filter]
  exact ⟨c, hc, p, ⟨hp, by simpa only [Bool.not_eq_true', ← Bool.not_eq_true, List.contains_iff_mem] using hun⟩, rfl⟩

-- non-vacuity: a repetition wrapper (arithmetic sequence, symbolic count) around a leaf is within `plainB`
example : plainB ⟨"w", none, ["N"], [], [], [], [⟨"T", .additive, .sym "core.T"⟩], [],
    some ⟨.sym "N", .arithmetic (.num 1) (.sym "N")⟩, [],
    [⟨"core", none, [], [], [], [], [⟨"T", .additive, .num 3⟩], [], none, [], [], []⟩], ["core"]⟩ = true := by decide

end Bartiq
