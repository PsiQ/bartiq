/-
  C14 — Operations are pure and reproducible.   (level: other — see DESIGN.md)
  What is logic is proved here: memoisation of a pure function (the `lru_cache` on `_value_of`) is transparent for every
  reachable cache state and every call history.  Everything in the model is a pure function, so repeatability is by
  construction; object mutation, hash randomisation and process-global state are runtime phenomena that no Lean model can
  exhibit — they are explored by harness/props/c14.py.
-/
namespace Bartiq

variable {κ β : Type} [DecidableEq κ]

abbrev Memo (κ β : Type) := List (κ × β)

def cachedCall (f : κ → β) (m : Memo κ β) (k : κ) : β × Memo κ β :=
  match m.find? (fun e => e.1 = k) with
  | some e => (e.2, m)
  | none => (f k, (k, f k) :: m)

def MemoInv (f : κ → β) (m : Memo κ β) : Prop := ∀ e ∈ m, e.2 = f e.1

theorem C14_cache_transparent (f : κ → β) (m : Memo κ β) (k : κ) (h : MemoInv f m) :
    (cachedCall f m k).1 = f k ∧ MemoInv f (cachedCall f m k).2 := by
  unfold cachedCall
  cases hf : m.find? (fun e => e.1 = k) with
  | some e =>
    have hk : e.1 = k := by simpa using List.find?_some hf
    exact ⟨(h e (List.mem_of_find?_eq_some hf)).trans (congrArg f hk), h⟩
  | none => exact ⟨rfl, List.forall_mem_cons.mpr ⟨rfl, h⟩⟩

def runHistory (f : κ → β) : Memo κ β → List κ → List β × Memo κ β
  | m, [] => ([], m)
  | m, k :: ks =>
    let (v, m') := cachedCall f m k
    let (vs, m'') := runHistory f m' ks
    (v :: vs, m'')

/-- **history freedom**: whatever was computed earlier in the process (any sound cache state, any sequence of calls),
    each call returns exactly what the un-cached function returns -/
theorem C14_history_free (f : κ → β) : ∀ (ks : List κ) (m : Memo κ β), MemoInv f m →
    (runHistory f m ks).1 = ks.map f ∧ MemoInv f (runHistory f m ks).2
  | [], m, h => ⟨rfl, h⟩
  | k :: ks, m, h => by
    have h1 := C14_cache_transparent f m k h
    have h2 := C14_history_free f ks (cachedCall f m k).2 h1.2
    simp only [runHistory, List.map_cons]
    exact ⟨by rw [h1.1, h2.1], h2.2⟩

omit [DecidableEq κ] in
theorem C14_cold_cache_sound (f : κ → β) : MemoInv f ([] : Memo κ β) := fun _ he => nomatch he

end Bartiq
