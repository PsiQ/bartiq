/-
  C11 — The expression language means standard arithmetic.
  Model: lexer + recursive-descent parser + `interp` (BartiqModel/Parser.lean); the operator and built-in tables are
  `Generated.*`, regenerated from `ast_parser._BINARY_OP_MAP`, `_UNARY_OP_MAP`, `SPECIAL_FUNCS`, `SPECIAL_PARAMS` on every run.
  External, modelled: Python's `ast.parse` and the five regex preprocessing stages (the Lean lexer/parser stands for them and is
  compared with the real parser on every run, incl. every operator pair/triple).
-/
import BartiqProofs.ParserComplete
import Generated.Tables
namespace Bartiq

/-- **the parser computes the standard reading** (usual precedence, left-associative `+ - * / // %`, right-associative power
    binding tighter than a unary sign on its left and admitting a signed exponent, parentheses, calls) of EVERY token string of
    the grammar — unbounded length and nesting -/
theorem C11_parser_is_standard_reading {ts : List Tok} {t : SExpr} (h : Reads ts t) : parseToks ts = some t :=
  parseToks_complete h

/-- the recursion depth the parser needs is at most 6 × (number of tokens) + 4 — `parseToks` runs with 6 × tokens + 10 -/
theorem C11_fuel_bound {ts : List Tok} {t : SExpr} (h : Reads ts t) :
    ∃ f0, f0 ≤ 6 * ts.length + 4 ∧ ∀ f, f0 ≤ f → pExpr f ts = some (t, []) :=
  ⟨_, Nat.le_refl _, parser_is_standard_reading h⟩

/-- the standard reading is unique (the grammar is unambiguous): both trees are what the parser returns -/
theorem C11_reading_unique {ts : List Tok} {t t' : SExpr} (h : Reads ts t) (h' : Reads ts t') : t = t' :=
  Option.some.inj ((parseToks_complete h).symm.trans (parseToks_complete h'))

def genTables : Tables :=
  { binOps := Generated.binOpTable, unaryOps := Generated.unaryOpTable,
    builtins := Generated.builtinNames, specialParams := Generated.specialParams }

/-- the operator table read from the source this run gives every operator its standard meaning; `^` and `**` are both power -/
theorem C11_op_table :
    lookupOp genTables "+" = some .add ∧ lookupOp genTables "-" = some .sub ∧ lookupOp genTables "*" = some .mul ∧
    lookupOp genTables "/" = some .div ∧ lookupOp genTables "//" = some .fdiv ∧ lookupOp genTables "%" = some .mod ∧
    lookupOp genTables "**" = some .pow ∧ lookupOp genTables "^" = some .pow ∧
    Generated.unaryOpTable = [("+", "pos"), ("-", "neg")] := by decide

/-- `//` is the floor of the quotient and `%` the remainder with the sign of the divisor, also for negative operands
    (exact rational interpretation) -/
theorem C11_floor_mod_std (a b : Rat) (hb : b ≠ 0) :
    RatAlg.bin .fdiv a b = some ((a / b).floor : Rat) ∧ RatAlg.bin .mod a b = some (a - b * ((a / b).floor : Rat)) := by
  simp [RatAlg.bin, hb]

/-- built-in function names are case-insensitive: whether a name is a built-in depends only on its lower-cased form -/
theorem C11_builtin_case_insensitive (T : Tables) (f g : String) (h : f.toLower = g.toLower) : isBuiltin T f = isBuiltin T g := by
  simp [isBuiltin, h]

/-- unknown function names stay uninterpreted, as written, with their arguments preserved (in order) -/
theorem C11_unknown_uninterpreted (T : Tables) (f : String) (args : List SExpr) (h : isBuiltin T f = false) :
    interp T (.call f args) = (interpList T args).map (Expr.app f) := by
  simp only [interp, h]
  cases interpList T args <;> simp

/-- identifiers — port (`#p`, `a.#p`), namespaced (`a.b.x`) and reserved-word (`lambda`, `in`, `in_0`, `lambda_x`) — are single
    tokens: any run of name characters is taken whole -/
theorem C11_identifier_taken_whole (cs rest : List Char) (h : ∀ c ∈ cs, Lex.isNameChar c = true)
    (hr : rest.head?.all (fun c => !Lex.isNameChar c) = true) : Lex.takeWhile Lex.isNameChar (cs ++ rest) = (cs, rest) := by
  induction cs with
  | nil =>
    cases rest with
    | nil => rfl
    | cons r rs => simp_all [Lex.takeWhile]
  | cons c cs ih =>
    rw [List.forall_mem_cons] at h
    simp [Lex.takeWhile, h.1, ih h.2]

-- the reserved words and port/namespace shapes named by the property, as kernel-checked instances of the lexer
example : Lex.lex "lambda" = some [Tok.name "lambda"] := by decide
example : Lex.lex "in" = some [Tok.name "in"] := by decide
example : Lex.lex "a.#p" = some [Tok.name "a.#p"] := by decide
example : Lex.lex "in+in" = some [Tok.name "in", Tok.plus, Tok.name "in"] := by decide
example : Lex.lex "lambda_x*#in_0" = some [Tok.name "lambda_x", Tok.star, Tok.name "#in_0"] := by decide

-- non-vacuity of the reading: `-a ** -b` is read as -(a ** (-b))
example : Reads [Tok.minus, Tok.name "a", Tok.pow, Tok.minus, Tok.name "b"] (.neg (.bin "**" (.name "a") (.neg (.name "b")))) :=
  term_to_expr (factor_to_term (.fNeg (.fPow (.pPow (xs := [.name "a"]) .aName (.fNeg (.fPow (.pAtom .aName)))))))

end Bartiq
