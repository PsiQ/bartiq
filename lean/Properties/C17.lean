/-
  C17 — Well-formed input never crashes; ill-formed wiring is rejected up front.
  Model: `verify` (BartiqModel/Verify.lean: qref's `verify_topology` + bartiq's `verify_uncompiled_repetitions`) is the
  first step of `compileRoutineWith`.  The places where the Python code would fail with a `KeyError`, `CycleError` or
  `AssertionError` are modelled as `Err.internal`; `C17_compile_raises_only_own_errors` shows them unreachable on soundly
  wired trees (`Routine.sound`, BartiqModel/Sound.lean — executable, evaluated by the driver on every generated routine).
  PARTIAL: that no exception originates inside sympy is outside any model of bartiq.
-/
import BartiqModel.Functions
import BartiqProofs.SortTreeLemmas
import BartiqProofs.NoInternal
namespace Bartiq

/-- any topology or repetition problem anywhere in the hierarchy ⇒ a compilation error, before preprocessing or compilation
    produce anything (verification is the first step) -/
theorem C17_rejected_before_result (stages : List Stage) (C : Comparator) (r : Routine)
    (h : (topologyProblems r ++ repetitionProblems r) ≠ []) :
    ∃ m, compileRoutineWith stages C false r = .error (.compilation m) := by
  unfold compileRoutineWith verify
  simp only [List.isEmpty_eq_false_iff.mpr h, Bool.false_eq_true, if_false]
  exact ⟨_, rfl⟩

/-- a repeated routine that does not have exactly one child, or has resources of its own, is a repetition problem -/
theorem C17_bad_repetition_is_problem (r : Routine) (rep : Repetition) (hr : r.rep = some rep)
    (h : r.children.length ≠ 1 ∨ r.resources.length ≠ 0) : repetitionProblemsHere r ≠ [] := by
  unfold repetitionProblemsHere
  rw [hr]
  rcases h with h | h
  · by_cases h0 : r.children.length = 0
    · simp [h0]
    · have : r.children.length > 1 := by omega
      simp [h0, this]
  · simp [h]

/-- problems found at a node are problems of the whole hierarchy (at the root; the recursion carries them up) -/
theorem C17_root_problem_propagates (r : Routine) (h : repetitionProblemsHere r ≠ []) : repetitionProblems r ≠ [] := by
  obtain ⟨_, _, _, _, _, _, _, _, _, _, ch, _⟩ := r
  simp only [repetitionProblems]
  intro hc
  exact h (List.append_eq_nil_iff.mp hc).1

/-- an unconnected or multiply connected port is a topology problem of that node -/
theorem C17_unconnected_is_problem (r : Routine) (p : String)
    (h : p ∈ (disconnectedHere r)) : topologyProblems r ≠ [] := by
  obtain ⟨_, _, _, _, _, _, _, _, _, _, ch, _⟩ := r
  simp only [topologyProblems]
  intro hc
  have h1 := (List.append_eq_nil_iff.mp hc).1
  have h2 := (List.append_eq_nil_iff.mp h1).2
  rw [h2] at h; cases h

/-- with verification skipped nothing is rejected up front (the exemption in the property) -/
theorem C17_skip_verification (stages : List Stage) (C : Comparator) (r : Routine) :
    compileRoutineWith stages C true r = (do let r ← preprocessWith stages r; let r ← sortTree r; compile C [] r.name r) :=
  rfl

-- non-vacuity: a wrapper with a repetition and no children is rejected
example : repetitionProblemsHere (Routine.mk "w" none [] [] [] [] [] [] (some ⟨.num 3, .constant (.num 1)⟩) [] [] []) ≠ [] := by
  decide

/-- **a connection cycle among the children of a routine is always rejected with a compilation error** — also the cycles that
    qref's own `verify_topology` does not see (closed through a child's through port, F13): whenever some child is, along the
    child-to-child wires, (transitively) its own predecessor, `sorted_children_order` — and with it `_compile` — ends in a
    compilation error: the listed order cannot pass the data-flow scan and the topological sorter cannot return an order
    (correctness of the model of graphlib's static_order, GraphLemmas) -/
theorem C17_child_cycle_is_compilation_error (names ord : List String) (conns : List (Endpoint × Endpoint)) (a : String)
    (hnd : ord.Nodup) (hall : ∀ n ∈ names, n ∈ ord) (hc : Graph.Before (childGraph names conns) a a) :
    ∃ m, sortedChildrenOrder names ord conns = .error (.compilation m) :=
  sortedChildrenOrder_cycle names ord conns a hnd hall hc

/-- … and the ordering of the children fails ONLY because of such a cycle: consistent (acyclic) wiring is never rejected here -/
theorem C17_ordering_fails_only_on_cycles (names ord : List String) (conns : List (Endpoint × Endpoint)) (e : Err)
    (h : sortedChildrenOrder names ord conns = .error e) : ∃ a, Graph.Before (childGraph names conns) a a := by
  have := sortedChildrenOrder_cases names ord conns
  rw [h] at this
  exact Graph.cycle_of_staticOrder_none _ this

/-- **well-formed input never crashes `_compile`**: on a soundly wired tree — local variables without circular definitions,
    every connection starting at a port that exists on the side it starts from, repetition wrappers of the propagated shape —
    `_compile` either returns a result or raises bartiq's own compilation error; the `KeyError` / `CycleError` /
    `AssertionError` sites are unreachable.  All hierarchies, all depths, all five sequence kinds, any comparator. -/
theorem C17_compile_raises_only_own_errors (C : Comparator) (r : Routine) (inputs : Dict Expr) (path : String) (e : Err)
    (hs : r.sound = true) (h : compile C inputs path r = .error e) : e.isInternal = false :=
  compile_no_internal C r inputs path hs e h

/-- … and so does the whole pipeline once preprocessing and the ordering of children have produced a sound tree (the driver
    reports `sound` for the tree they produce on every generated routine): verification raises compilation errors only -/
theorem C17_pipeline_raises_only_own_errors (stages : List Stage) (C : Comparator) (skip : Bool) (r r1 r2 : Routine) (e : Err)
    (hp : preprocessWith stages r = .ok r1) (ho : sortTree r1 = .ok r2) (hs : r2.sound = true)
    (h : compileRoutineWith stages C skip r = .error e) : e.isInternal = false := by
  unfold compileRoutineWith at h
  refine OwnErrors.bind ?_ (fun _ _ => ?_) e h
  · cases skip with
    | true => exact .pure _
    | false =>
      simp only [Bool.false_eq_true, if_false, verify]
      split
      · exact .pure _
      · exact .throw rfl
  · simp only [hp, ho, bind, Except.bind]
    exact compile_no_internal C r2 [] r2.name hs

/-- evaluation (with or without a functions_map, any assignment) raises nothing but bartiq's own error class either -/
theorem C17_evaluate_raises_only_own_errors (C : Comparator) (c : CRoutine) (σ : Dict Expr) (fns : List FnImpl) (e : Err)
    (h : evaluateWith C c σ fns = .error e) : e.isInternal = false :=
  evaluateInternal_no_internal C σ (Expr.defineFns fns) c c.name e h

/-- a compiled node carries an additive/multiplicative resource under every name its source (or, for a repetition wrapper,
    its only child) promises — what makes the wrapper's assertions hold at every nesting depth -/
theorem C17_wrapper_assertions_hold (C : Comparator) (r : Routine) (inputs : Dict Expr) (path : String) (c : CRoutine)
    (h : compile C inputs path r = .ok c) (n : String) (hn : n ∈ r.amNames) : ∃ x ∈ c.resources, x.name = n ∧ x.ty.isAM = true :=
  compile_am C r inputs path c h n hn

-- non-vacuity: a wrapper with the propagated resource over a leaf that has it is sound; with a resource the leaf lacks it is not
example : (Routine.mk "w" none [] [] [] [] [⟨"T", .additive, .sym "l.T"⟩] [] (some ⟨.sym "N", .constant (.num 1)⟩) []
    [Routine.mk "l" none [] [] [] [] [⟨"T", .additive, .num 3⟩] [] none [] [] []] []).sound = true := by decide +kernel
example : (Routine.mk "w" none [] [] [] [] [⟨"U", .additive, .sym "l.U"⟩] [] (some ⟨.sym "N", .constant (.num 1)⟩) []
    [Routine.mk "l" none [] [] [] [] [⟨"T", .additive, .num 3⟩] [] none [] [] []] []).sound = false := by decide +kernel

-- non-vacuity: a.out -> b.in, b.out -> a.in is such a cycle
example : Graph.Before (childGraph ["a", "b"] [(⟨some "a", "out"⟩, ⟨some "b", "in"⟩), (⟨some "b", "out"⟩, ⟨some "a", "in"⟩)]) "a" "a" :=
  Graph.Before.trans (b := "b") (Graph.Before.edge (by decide)) (Graph.Before.edge (by decide))

/-! ### resource types under sequence kinds (the table harness/props/c17.py walks on the real code) -/

/-- a `qubits` resource under a non-constant sequence, or a resource of type `other`, of the only child of a repeated routine: the
    repetition step produces NO result (and, by `C17_wrapper_assertions_hold` / `processRepeatedResources_own`, what it raises on a
    soundly wired tree is bartiq's own compilation error) — whatever the other resources are and wherever the resource is listed -/
theorem C17_unprocessable_resource_never_compiles (rep : Repetition) (rs : List Resource) (cn : String)
    (childRes : List (String × ResTy)) (nt : String × ResTy) (hm : nt ∈ childRes) (hu : unprocessable rep.seq nt.2 = true) :
    ∀ out, processRepeatedResources rep rs [(cn, childRes)] ≠ .ok out := by
  intro out h
  obtain ⟨_, _, hsig, _, h⟩ := processRepeatedResources_ok h
  cases hsig
  refine foldlM_except_of_mem (fun _ => False) _ nt (fun acc acc' hstep => ?_) (fun _ _ _ hF _ => hF) childRes hm _ out h
  -- a successful step means an additive / multiplicative resource, or `qubits` under a constant sequence
  rcases repResStep_ok hstep with ⟨_, hv, _⟩ | ⟨hq, ⟨m, hseq⟩, _⟩
  · rcases hv with ⟨hty, _⟩ | ⟨hty, _⟩ <;> rw [hty] at hu <;> cases hu
  · rw [hq, hseq] at hu; cases hu

/-- … and on a wrapper whose assertions hold (what `C17_wrapper_assertions_hold` gives for every soundly wired tree) the outcome is an
    error that is NOT an internal exception: bartiq's own refusal, for every sequence kind and every position of the resource -/
theorem C17_unprocessable_resource_is_own_error (rep : Repetition) (rs : List Resource) (cn : String)
    (childRes : List (String × ResTy)) (nt : String × ResTy) (hm : nt ∈ childRes) (hu : unprocessable rep.seq nt.2 = true)
    (hit : rep.seq.iteratorOK = true) (hok : rs.all (repResourceOK cn childRes) = true) :
    ∃ e, processRepeatedResources rep rs [(cn, childRes)] = .error e ∧ e.isInternal = false := by
  cases h : processRepeatedResources rep rs [(cn, childRes)] with
  | ok out => exact absurd h (C17_unprocessable_resource_never_compiles rep rs cn childRes nt hm hu out)
  | error e => exact ⟨e, rfl, processRepeatedResources_own hit hok e h⟩

/-- the one exception: `qubits` under a CONSTANT sequence is skipped (the wrapper carries no resource of that name) -/
theorem C17_qubits_under_constant_skipped (cnt m : Expr) (cn n : String) :
    processRepeatedResources ⟨cnt, .constant m⟩ [] [(cn, [(n, .qubits)])] = .ok [] :=
  rfl

-- non-vacuity: a qubits resource listed AFTER an additive one under an arithmetic sequence
example : unprocessable (.arithmetic (.num 1) (.num 2)) ResTy.qubits = true ∧
    (("anc", ResTy.qubits) ∈ [("T", ResTy.additive), ("anc", ResTy.qubits)]) := by
  simp [unprocessable]

end Bartiq
