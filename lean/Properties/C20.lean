/-
  C20 — Minimisation respects its bounds and reports a consistent optimum.
  Model: `gradDescent` (BartiqModel/Analysis.lean), generic in the arithmetic.  The theorems hold for ANY cost function,
  ANY arithmetic (`add`/`sub`/`mul`/`div`/`abs` arbitrary — so rounding is irrelevant) as long as the comparisons are
  those of a linear order.  PARTIAL: IEEE NaN is not a linear order; NaN behaviour is covered by the bit-exact
  correspondence of the `Float` instance only.
-/
import BartiqModel.Analysis
import Mathlib.Order.Nat
namespace Bartiq

variable {R : Type} [LinearOrder R]

structure OrdArith (A : Arith R) : Prop where
  le : ∀ a b, A.le a b = decide (a ≤ b)
  lt : ∀ a b, A.lt a b = decide (a < b)
  eq : ∀ a b, A.eq a b = decide (a = b)

def InBounds (p : GDParams R) (x : R) : Prop :=
  match p.bounds with
  | some (lo, hi) => lo ≤ x ∧ x ≤ hi
  | none => True

theorem InBounds_of_none {p : GDParams R} (hbd : p.bounds = none) (x : R) : InBounds p x := by
  simp [InBounds, hbd]

theorem InBounds_of_some {p : GDParams R} {lo hi : R} (hbd : p.bounds = some (lo, hi)) (x : R) :
    InBounds p x ↔ lo ≤ x ∧ x ≤ hi := by
  simp [InBounds, hbd]

theorem gdStartOk_iff (A : Arith R) (hA : OrdArith A) (p : GDParams R) : gdStartOk A p = true ↔ InBounds p p.x0 := by
  unfold gdStartOk
  rcases hbd : p.bounds with _ | ⟨lo, hi⟩
  · simp [InBounds_of_none hbd]
  · simp [InBounds_of_some hbd, hA.le]

theorem pmax_eq_max (A : Arith R) (hA : OrdArith A) (a b : R) : A.pmax a b = max a b := by
  unfold Arith.pmax
  rcases lt_or_ge a b with h | h
  · simp [hA.lt, h, max_eq_right h.le]
  · simp [hA.lt, not_lt.mpr h, max_eq_left h]

theorem pmin_eq_min (A : Arith R) (hA : OrdArith A) (a b : R) : A.pmin a b = min a b := by
  unfold Arith.pmin
  rcases lt_or_ge b a with h | h
  · simp [hA.lt, h, min_eq_right h.le]
  · simp [hA.lt, not_lt.mpr h, min_eq_left h]

theorem clamp_in_bounds (A : Arith R) (hA : OrdArith A) (lo hi x : R) (h : lo ≤ hi) :
    lo ≤ A.pmax (A.pmin x hi) lo ∧ A.pmax (A.pmin x hi) lo ≤ hi := by
  rw [pmax_eq_max A hA, pmin_eq_min A hA]
  exact ⟨le_max_right _ _, max_le (min_le_right _ _) h⟩

structure GDInv (p : GDParams R) (s : GDState R) : Prop where
  inb : ∀ x ∈ s.hist, InBounds p x
  cur : s.cur ∈ s.hist
  first : s.hist.getLast? = some p.x0

theorem GDInv.push {p : GDParams R} {s : GDState R} (h : GDInv p s) (y v : R) (hy : InBounds p y) :
    GDInv p { cur := y, vel := v, hist := y :: s.hist } where
  inb := List.forall_mem_cons.mpr ⟨hy, h.inb⟩
  cur := List.mem_cons_self
  first := by simp [List.getLast?_cons, h.first]

/-- every exit of a step either moves to a new point (clamped into the bounds, if there are any) or changes the velocity
    alone, of which the invariant does not speak -/
theorem gdStep_inv (A : Arith R) (hA : OrdArith A) (f : R → R) (p : GDParams R) (s : GDState R) (h : GDInv p s) :
    GDInv p (gdStep A f p s).1 := by
  unfold gdStep
  cases hbd : p.bounds with
  | none =>
    dsimp only
    split
    · exact ⟨h.inb, h.cur, h.first⟩
    · exact h.push _ _ (InBounds_of_none hbd _)
  | some b =>
    obtain ⟨lo, hi⟩ := b
    -- the current point lies between the bounds, so they are in order
    have hcur := (InBounds_of_some hbd _).mp (h.inb _ h.cur)
    have hy (x : R) : InBounds p (A.pmax (A.pmin x hi) lo) :=
      (InBounds_of_some hbd _).mpr (clamp_in_bounds A hA lo hi x (le_trans hcur.1 hcur.2))
    dsimp only
    split
    · exact h.push _ _ (hy _)
    · split
      · exact ⟨h.inb, h.cur, h.first⟩
      · exact h.push _ _ (hy _)

theorem gdLoop_inv (A : Arith R) (hA : OrdArith A) (f : R → R) (p : GDParams R) :
    ∀ (n : Nat) (s s' : GDState R), GDInv p s → gdLoop A f p n s = some s' → GDInv p s'
  | 0, _, _, _, h => by simp [gdLoop] at h
  | n + 1, s, s', hi, h => by
    simp only [gdLoop] at h
    have hstep := gdStep_inv A hA f p s hi
    split at h
    · cases h; exact hstep
    · exact gdLoop_inv A hA f p n _ s' hstep h

/-- the start is checked before any iteration: an out-of-bounds starting point is an error, never a value -/
theorem C20_bad_start_is_error (A : Arith R) (hA : OrdArith A) (f : R → R) (p : GDParams R) (lo hi : R)
    (hb : p.bounds = some (lo, hi)) (hout : ¬ (lo ≤ p.x0 ∧ p.x0 ≤ hi)) : gradDescent A f p = .valueError := by
  rw [← InBounds_of_some hb, ← gdStartOk_iff A hA, Bool.not_eq_true] at hout
  simp [gradDescent, hout]

omit [LinearOrder R] in
/-- failure to converge within `max_iter` iterations is an error, never a value -/
theorem C20_no_convergence_is_error (A : Arith R) (f : R → R) (p : GDParams R)
    (h : gdLoop A f p p.maxIter { cur := p.x0, vel := A.zero, hist := [p.x0] } = none) :
    ∀ r, gradDescent A f p ≠ .ok r := by
  intro r hr
  unfold gradDescent at hr
  rw [h] at hr
  split at hr <;> cases hr

/-- **main theorem**: a returned result lies within the bounds, so does every point of the history, the history starts
    at the supplied starting point, the optimum is a point of the history, and the reported cost is the cost there -/
theorem C20_result_consistent (A : Arith R) (hA : OrdArith A) (f : R → R) (p : GDParams R) (r : GDResult R)
    (h : gradDescent A f p = .ok r) :
    InBounds p r.optimal ∧ (∀ x ∈ r.history, InBounds p x) ∧ r.history.head? = some p.x0 ∧
      r.optimal ∈ r.history ∧ r.minimumCost = f r.optimal := by
  unfold gradDescent at h
  split at h
  · cases h
  next hc =>
    split at h
    next s hs =>
      cases h
      have hx0 := (gdStartOk_iff A hA p).mp (by simpa using hc)
      have hinv := gdLoop_inv A hA f p _ _ _ ⟨by simpa using hx0, List.mem_singleton_self _, rfl⟩ hs
      exact ⟨hinv.inb _ hinv.cur, fun x hx => hinv.inb x (List.mem_reverse.mp hx),
        by rw [List.head?_reverse]; exact hinv.first, List.mem_reverse.mpr hinv.cur, rfl⟩
    · cases h

example : OrdArith (R := Nat)
    { add := fun a b => a + b, sub := fun a b => a - b, mul := fun a b => a * b, div := fun a b => a / b,
      le := fun a b => decide (a ≤ b), lt := fun a b => decide (a < b), eq := fun a b => decide (a = b),
      abs := id, two := 2, zero := 0 } :=
  ⟨fun _ _ => rfl, fun _ _ => rfl, fun _ _ => rfl⟩

end Bartiq
