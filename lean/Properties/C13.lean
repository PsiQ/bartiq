/-
  C13 — Routines survive QREF export and import.
  Model: `Routine.toQ` / `QRoutine.fromQ` (BartiqModel/Qref.lean), parametrised by the expression codec (printer, parser) whose
  round trip is C11/C12.  Proved: importing an exported routine succeeds and yields the same routine with every expression
  replaced by its re-read form — same structure, names, types, directions, connections, parameter links, local-variable
  names, kind of sequence, presence/absence of optional sequence fields (constraints are not part of the document).
  The textual encodings of endpoints (`child.port`) and link targets (`path.param`, split at the last dot) are part of the
  model and of the theorem (names dot-free, as QREF's name pattern demands; link sources distinct, as `from_qref` merges them).
  PARTIAL: pydantic's validation and the export of COMPILED results are covered by the oracle of harness/props/c13.py (with
  one listed finding: port-variable input names).
-/
import BartiqModel.Qref
import BartiqProofs.QrefLemmas
namespace Bartiq

/-- `f`: what printing an expression and reading it back makes of it -/
def Codec.RoundTrips (c : Codec) (f : Expr → Expr) : Prop := ∀ e, c.ps (c.pr e) = some (f e)

theorem seq_roundtrip (c : Codec) (f : Expr → Expr) (hc : c.RoundTrips f) (s : Seq) : (s.toQ c).fromQ c = some (s.mapExpr f) := by
  cases s with
  | constant m => simp [Seq.toQ, QSeq.fromQ, Seq.mapExpr, hc m]
  | arithmetic i d => simp [Seq.toQ, QSeq.fromQ, Seq.mapExpr, hc i, hc d]
  | geometric r => simp [Seq.toQ, QSeq.fromQ, Seq.mapExpr, hc r]
  | closedForm s p n =>
    cases s <;> cases p <;> simp [Seq.toQ, QSeq.fromQ, Seq.mapExpr, optParse, hc n, hc _]
  | custom t i => simp [Seq.toQ, QSeq.fromQ, Seq.mapExpr, hc t, hc i]

theorem mapM_roundtrip_mem {α β γ : Type} (enc : α → β) (dec : β → Option γ) (g : α → γ) :
    ∀ (l : List α), (∀ a ∈ l, dec (enc a) = some (g a)) → (l.map enc).mapM dec = some (l.map g)
  | [], _ => rfl
  | a :: as, h => by
    rw [List.map_cons, List.mapM_cons, h a List.mem_cons_self, mapM_roundtrip_mem enc dec g as fun x hx => h x (List.mem_cons_of_mem _ hx)]
    rfl

def Endpoint.OK (e : Endpoint) : Prop := Dotless e.port ∧ ∀ r, e.routine = some r → Dotless r

/-- the string encodings on their own: an endpoint and a link target are read back as written; the target's path may itself
    contain dots (deep links), because the import splits at the LAST dot -/
theorem C13_endpoint_encoding_roundtrip (e : Endpoint) (h : e.OK) : Endpoint.ofStr e.toStr = some e := by
  obtain ⟨r, p⟩ := e
  obtain ⟨hp, hr⟩ := h
  cases r with
  | none =>
    simp only [Endpoint.toStr, Endpoint.ofStr]
    rw [splitAtFirst_none '.' p.toList hp]
  | some r =>
    simp only [Endpoint.toStr, Endpoint.ofStr]
    rw [toList_dot, splitAtFirst_append '.' r.toList p.toList (hr r rfl)]
    simp [show '.' ∉ p.toList from hp, String.ofList_toList]

theorem C13_link_target_encoding_roundtrip (path param : String) (h : Dotless param) :
    targetOfStr (targetToStr (path, param)) = some (path, param) := by
  simp only [targetToStr, targetOfStr]
  rw [toList_dot, splitAtLast_append '.' path.toList param.toList h]
  simp [String.ofList_toList]

mutual
/-- what QREF's schema guarantees about names at every level: port and child names in connections and the parameter names
    of link targets are dot-free (a target's PATH may contain dots), and no two links of one routine share a source -/
def Routine.NamesOK : Routine → Prop
  | ⟨_, _, _, _, lks, _, _, cs, _, _, ch, _⟩ =>
    (lks.map (·.1)).Nodup ∧ (∀ lk ∈ lks, ∀ t ∈ lk.2, Dotless t.2) ∧ (∀ cn ∈ cs, cn.1.OK ∧ cn.2.OK) ∧ Routine.NamesOKList ch
def Routine.NamesOKList : List Routine → Prop
  | [] => True
  | r :: rs => r.NamesOK ∧ Routine.NamesOKList rs
end

mutual
/-- **export then import** gives back the routine itself, with each expression re-read (structure preserved exactly,
    endpoints and link targets through their string encodings) -/
theorem C13_roundtrip_structure (c : Codec) (f : Expr → Expr) (hc : c.RoundTrips f) :
    ∀ (r : Routine), r.NamesOK → (r.toQ c).fromQ c = some (r.reread f)
  | ⟨n, ty, ips, lvs, lks, ps, rs, cs, rep, cons, ch, ord⟩, hok => by
    simp only [Routine.NamesOK] at hok
    obtain ⟨hnd, hlk, hcn, hkids⟩ := hok
    simp only [Routine.toQ, QRoutine.fromQ]
    -- each list of the document is read back entry by entry; what that asks of the entries is shown below, last list first
    rw [mapM_roundtrip_mem _ _ (fun kv => (kv.1, f kv.2)) lvs, mapM_roundtrip_mem _ _ (fun p => { p with size := f p.size }) ps,
      mapM_roundtrip_mem _ _ (fun r => { r with value := f r.value }) rs, mapM_roundtrip_mem _ _ id lks,
      mapM_roundtrip_mem _ _ id cs, C13_roundtrip_children c f hc ch hkids]
    · have hm := mergeLinks_of_nodup lks hnd
      cases rep with
      | none => simp [Routine.reread, hm]
      | some rp => simp [Routine.reread, hc rp.count, seq_roundtrip c f hc rp.seq, hm]
    · intro cn hcn'
      simp [C13_endpoint_encoding_roundtrip _ (hcn cn hcn').1, C13_endpoint_encoding_roundtrip _ (hcn cn hcn').2]
    · intro lk hlk'
      rw [mapM_roundtrip_mem _ _ id lk.2 fun t ht => C13_link_target_encoding_roundtrip t.1 t.2 (hlk lk hlk' t ht)]
      simp
    · intro r _; simp [hc r.value]
    · intro p _; simp [hc p.size]
    · intro kv _; simp [hc kv.2]
theorem C13_roundtrip_children (c : Codec) (f : Expr → Expr) (hc : c.RoundTrips f) :
    ∀ (rs : List Routine), Routine.NamesOKList rs → QRoutine.fromQList c (Routine.toQList c rs) = some (Routine.rereadList f rs)
  | [], _ => rfl
  | r :: rs, h => by
    simp only [Routine.NamesOKList] at h
    simp [Routine.toQList, QRoutine.fromQList, Routine.rereadList, C13_roundtrip_structure c f hc r h.1, C13_roundtrip_children c f hc rs h.2]
end

-- non-vacuity: a deep link target whose path has two dots, and a connection endpoint
example : targetOfStr (targetToStr ("a.b.c", "n")) = some ("a.b.c", "n") := by decide
example : Endpoint.ofStr (Endpoint.toStr ⟨some "child", "out_0"⟩) = some ⟨some "child", "out_0"⟩ := by decide
example : (⟨some "child", "out_0"⟩ : Endpoint).OK := ⟨by simp [Dotless], by intro r h; cases h; simp [Dotless]⟩

/-- re-reading changes no name, type, direction, connection, link or nesting -/
theorem C13_reread_preserves_skeleton (f : Expr → Expr) (r : Routine) :
    (r.reread f).name = r.name ∧ (r.reread f).type = r.type ∧ (r.reread f).inputParams = r.inputParams ∧
    (r.reread f).linked = r.linked ∧ (r.reread f).conns = r.conns ∧
    (r.reread f).ports.map (fun p => (p.name, p.dir)) = r.ports.map (fun p => (p.name, p.dir)) ∧
    (r.reread f).resources.map (fun x => (x.name, x.ty)) = r.resources.map (fun x => (x.name, x.ty)) ∧
    (r.reread f).localVars.map (·.1) = r.localVars.map (·.1) ∧
    (r.reread f).children.length = r.children.length := by
  obtain ⟨n, ty, ips, lvs, lks, ps, rs, cs, rep, cons, ch, ord⟩ := r
  simp only [Routine.reread, List.map_map, Function.comp_def, true_and]
  have : ∀ (l : List Routine), (Routine.rereadList f l).length = l.length := by
    intro l; induction l with
    | nil => rfl
    | cons a as ih => simp [Routine.rereadList, ih]
  exact this ch

/-- the kind of sequence and the presence of its optional fields survive (an absent `prod` stays absent) -/
theorem C13_sequence_kind_preserved (f : Expr → Expr) (s : Seq) : (s.mapExpr f).kind = s.kind := by
  cases s <;> rfl

theorem C13_absent_field_stays_absent (c : Codec) (s p : Option Expr) (n : Expr) :
    (Seq.closedForm s p n).toQ c = .closedForm (s.map c.pr) (p.map c.pr) (c.pr n) := rfl

/-- if the codec is exact (re-reading is the identity, as C12 shows for the model printer/parser on surface trees) the round
    trip is the identity up to the dropped constraints -/
theorem C13_roundtrip_exact (c : Codec) (hc : c.RoundTrips id) (r : Routine) (hok : r.NamesOK) :
    (r.toQ c).fromQ c = some (r.reread id) :=
  C13_roundtrip_structure c id hc r hok

end Bartiq
