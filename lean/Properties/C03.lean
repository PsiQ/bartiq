/-
  C03 — Subroutine-local names never capture or leak.
  The substitution-level core: simultaneous substitution never substitutes an assigned value again, bound names of sequences
  (the iterator of a custom sequence, the placeholder of a closed form) are not replaced, and the *sequential* variant (what
  `expr.subs(list)` did before the fix) is wrong.  Invariance of the whole pipeline under renaming is tested only (DESIGN.md).
-/
import BartiqProofs.ExprLemmas
import BartiqProofs.EvaluateLemmas
namespace Bartiq
open Expr

/-- an assigned expression that mentions the name of another assigned input is not substituted again:
    the values of σ are read in the *outer* environment ρ, never in σ itself -/
theorem C03_evaluate_no_resubstitution {V : Type} (A : Alg V) (σ : Dict Expr) (ρ : Env V) (e : Expr)
    (h : NoCapture σ.get? e) :
    eval A ρ (Expr.subst σ e) = eval A (fun x => match σ.get? x with | some t => eval A ρ t | none => ρ x) e :=
  eval_subst A σ ρ e h

/-- the same, at every port and resource of a whole compiled hierarchy -/
theorem C03_evaluate_simultaneous_everywhere (C : Comparator) (c c' : CRoutine) (σ : Dict Expr)
    (h : evaluate C c σ = .ok c') : c'.etree = c.etree.mapExpr (Expr.subst σ) :=
  evaluateInternal_etree C σ id c c.name c' h

/-- the iterator symbol of a custom sequence is never replaced, and no replacement value may mention it -/
theorem C03_custom_iterator_guard (σ : Dict Expr) (t : Expr) (it : String)
    (h : it ∈ σ.keys ∨ it ∈ σ.values.flatMap Expr.fv) :
    ∃ m, (Seq.custom t (.sym it)).substituteSymbols σ = .error (.compilation m) := by
  refine ⟨"Tried to replace symbol that's used as iterator symbol in a sequence", ?_⟩
  simp only [Seq.substituteSymbols]
  have : ((σ.values.flatMap Expr.fv).contains it || σ.keys.contains it) = true := by
    simp only [Bool.or_eq_true, List.contains_iff_mem]; exact h.symm
  rw [if_pos this]; rfl

/-- the placeholder of a closed-form sequence is a BOUND name: substituting the symbols of the surrounding scope leaves it and its
    occurrences in the formulas alone (the repaired behaviour, F18) -/
theorem C03_closed_form_placeholder_is_bound (σ : Dict Expr) (s p : Option Expr) (n : String) :
    (Seq.closedForm s p (.sym n)).substituteSymbols σ =
      .ok (.closedForm (s.map (Expr.subst (σ.erase n))) (p.map (Expr.subst (σ.erase n))) (.sym n)) := rfl

/-- … so a symbol of the scope that is merely SPELLED like the placeholder has no influence on the substituted sequence: two scopes
    that differ only in what they bind to that name give the same result -/
theorem C03_closed_form_ignores_like_named_symbol (σ σ' : Dict Expr) (s p : Option Expr) (n : String)
    (h : ∀ x, x ≠ n → σ.get? x = σ'.get? x) :
    (Seq.closedForm s p (.sym n)).substituteSymbols σ = (Seq.closedForm s p (.sym n)).substituteSymbols σ' := by
  rw [C03_closed_form_placeholder_is_bound, C03_closed_form_placeholder_is_bound,
    show Expr.subst (σ.erase n) = Expr.subst (σ'.erase n) from funext (subst_erase_congr h)]

-- non-vacuity: sum N*(N+1)/2 with placeholder N, scope binding N to 2*K or to 7: the same substituted sequence, formula untouched
example : (Seq.closedForm (some (.bin .div (.bin .mul (.sym "N") (.bin .add (.sym "N") (.num 1))) (.num 2))) none (.sym "N")).substituteSymbols
      [("N", .bin .mul (.num 2) (.sym "K"))] =
    (Seq.closedForm (some (.bin .div (.bin .mul (.sym "N") (.bin .add (.sym "N") (.num 1))) (.num 2))) none (.sym "N")).substituteSymbols [("N", .num 7)] :=
  C03_closed_form_ignores_like_named_symbol _ _ _ _ "N" (by intro x hx; simp [Dict.get?, Ne.symm hx])

/-- the sequential variant is NOT the simultaneous one: with M ↦ N and N ↦ M (cross links) on `N + 2*M`,
    sequential substitution yields `N + 2*N`.  Kernel-checked counter-example over exact rationals. -/
theorem C03_sequential_is_wrong :
    ∃ (e : Expr) (σ : Dict Expr) (ρ : Env Rat),
      eval Alg.rat ρ (substSeq σ e) ≠ eval Alg.rat (under Alg.rat ρ σ.get?) e := by
  refine ⟨.bin .add (.sym "N") (.bin .mul (.num 2) (.sym "M")),
          [("N", .sym "M"), ("M", .sym "N")],
          (fun x => if x = "N" then some 3 else if x = "M" then some 5 else none), ?_⟩
  decide +kernel

end Bartiq
