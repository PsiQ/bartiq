/-
  C10 — Compilation preserves the structure of the hierarchy.
  Proved for the model's `_compile` (on the tree whose children are already in processing order): names, nesting, types,
  ports with directions, connections are preserved exactly; resources of a non-repeated node keep their names and types;
  default propagation keeps every resource of the node and only appends new ones (which ones: Properties/C08.lean).  The
  reordering of children that precedes it (`sortTree`, by `sorted_children_order`) keeps every child exactly once
  (C10_reordering_loses_no_child, from the correctness of the model of graphlib's static_order).  That the port-variable stage
  only permutes ports is covered by the correspondence (harness/pipeline.compare_trees) and the oracle of harness/props/c10.py.
-/
import BartiqProofs.CompileSpec
import BartiqProofs.SortTreeLemmas
import BartiqProofs.ResourceLemmas
namespace Bartiq

/-- structure of a node: name, type, non-output ports, output ports (name and direction), connections, children -/
inductive STree where
  | node (name : String) (type : Option String) (nonOut out : List (String × Dir))
      (conns : List (Endpoint × Endpoint)) (children : List STree)

def portSig (ps : List Port) : List (String × Dir) := ps.map fun p => (p.name, p.dir)

mutual
def Routine.shape : Routine → STree
  | ⟨n, ty, _, _, _, ps, _, cs, _, _, ch, _⟩ =>
    .node n ty (portSig (Port.portsOf ps [.input, .through])) (portSig (Port.portsOf ps [.output])) cs (Routine.shapeList ch)
def Routine.shapeList : List Routine → List STree
  | [] => []
  | c :: cs => c.shape :: Routine.shapeList cs
end

mutual
def CRoutine.shape : CRoutine → STree
  | ⟨n, ty, _, ps, _, cs, _, _, ch, _⟩ =>
    .node n ty (portSig (Port.portsOf ps [.input, .through])) (portSig (Port.portsOf ps [.output])) cs (CRoutine.shapeList ch)
def CRoutine.shapeList : List CRoutine → List STree
  | [] => []
  | c :: cs => c.shape :: CRoutine.shapeList cs
end

theorem portsOf_append (a b : List Port) (ds : List Dir) : Port.portsOf (a ++ b) ds = Port.portsOf a ds ++ Port.portsOf b ds := by
  simp [Port.portsOf]

theorem portsOf_idem (ps : List Port) (ds : List Dir) : Port.portsOf (Port.portsOf ps ds) ds = Port.portsOf ps ds := by
  simp [Port.portsOf, List.filter_filter]

theorem portsOf_disjoint (ps : List Port) (ds ds' : List Dir) (h : ∀ d, d ∈ ds → d ∉ ds') :
    Port.portsOf (Port.portsOf ps ds) ds' = [] := by
  simp only [Port.portsOf, List.filter_filter, List.filter_eq_nil_iff]
  intro p _
  simp only [Bool.and_eq_true, List.contains_iff_mem, not_and]
  intro h2 h1
  exact h _ h1 h2

/-- `_compile` evaluates the non-output ports before the children and the output ports after them, with different scopes:
    selecting by direction afterwards gives each group back -/
theorem portsOf_evaluated_split (ps : List Port) (A B : List Dir) (h : ∀ d, d ∈ A → d ∉ B) (σ₁ σ₂ : Dict Expr) :
    let ports := evaluatePorts (Port.portsOf ps A) σ₁ ++ evaluatePorts (Port.portsOf ps B) σ₂
    Port.portsOf ports A = evaluatePorts (Port.portsOf ps A) σ₁ ∧ Port.portsOf ports B = evaluatePorts (Port.portsOf ps B) σ₂ := by
  have hBA : Port.portsOf (Port.portsOf ps B) A = [] := portsOf_disjoint ps B A fun d hB hA => h d hA hB
  simp only [portsOf_append, portsOf_evaluatePorts, portsOf_idem, portsOf_disjoint ps A B h, hBA]
  exact ⟨List.append_nil _, List.nil_append _⟩

mutual
/-- **the compiled hierarchy has exactly the shape of the source** (names, nesting, types, ports+directions, connections) -/
theorem C10_compile_same_shape (C : Comparator) : ∀ (r : Routine) (inputs : Dict Expr) (path : String) (c : CRoutine),
    compile C inputs path r = .ok c → c.shape = r.shape
  | ⟨name, ty, ips, lvs, lks, ps, rs, cs, rep, cons, ch, ord⟩, inputs, path, c, h => by
    obtain ⟨t, rfl⟩ := compile_ok_iff.mp h
    have hch := C10_children_same_shape C ch cs path _ t.pm2 t.ccs t.hch
    have hp := portsOf_evaluated_split ps [.input, .through] [.output] (by decide) (pmInit t.lv inputs lks ch).self
      (Dict.merge t.pm2.self (childrenVariables t.ccs))
    simp only [CRoutine.shape, Routine.shape, CompileTrace.result, finishNode]
    rw [hp.1, hp.2, hch]
    simp only [portSig, evaluatePorts_shape]
theorem C10_children_same_shape (C : Comparator) : ∀ (ch : List Routine) (conns : List (Endpoint × Endpoint)) (path : String)
    (pm pm' : PTree) (ccs : List CRoutine), compileChildren C conns path pm ch = .ok (pm', ccs) →
    CRoutine.shapeList ccs = Routine.shapeList ch
  | [], _, _, _, _, ccs, h => by rw [(compileChildren_nil h).2]; rfl
  | c :: cs, conns, path, pm, pm', ccs, h => by
    obtain ⟨cc, upd, ccs', hcc, _, hrest, rfl⟩ := compileChildren_cons_iff.mp h
    simp only [CRoutine.shapeList, Routine.shapeList]
    rw [C10_compile_same_shape C c _ _ cc hcc, C10_children_same_shape C cs conns path _ pm' ccs' hrest]
end

/-- every resource defined in the source of a non-repeated node is present after compilation with the same name and type,
    in the same order, and compilation itself adds none -/
theorem C10_resources_same_names_types (C : Comparator) (r : Routine) (inputs : Dict Expr) (path : String) (c : CRoutine)
    (h : compile C inputs path r = .ok c) (hrep : r.rep = none) :
    c.resources.map (fun x => (x.name, x.ty)) = r.resources.map (fun x => (x.name, x.ty)) := by
  obtain ⟨t, rfl⟩ := compile_ok_iff.mp h
  rcases repStep_ok t.hrep with ⟨_, hres, _⟩ | ⟨rp, _, hrp, _⟩
  · simp only [CompileTrace.result, finishNode, evaluateResources_shape, hres]
  · rw [hrep] at hrp; cases hrp

/-- the only other differences are input parameters: name, type, connections and child order field are copied -/
theorem C10_only_additions (C : Comparator) (r : Routine) (inputs : Dict Expr) (path : String) (c : CRoutine)
    (h : compile C inputs path r = .ok c) :
    c.name = r.name ∧ c.type = r.type ∧ c.conns = r.conns ∧ c.childrenOrder = r.childrenOrder := by
  obtain ⟨t, rfl⟩ := compile_ok_iff.mp h
  exact ⟨rfl, rfl, rfl, rfl⟩

/-- the resources the stage makes up are named after entries that passed the test "the routine has no resource of this name" -/
theorem find?_none_of_mem_new {β : Type} (rs : List Resource) (f : String × β → Resource) (hf : ∀ kv, (f kv).name = kv.1)
    (d : List (String × β)) (x : Resource) (hx : x ∈ (d.filter fun kv => !Resource.has rs kv.1).map f) :
    Resource.find? rs x.name = none := by
  obtain ⟨kv, hkv, rfl⟩ := List.mem_map.mp hx
  simpa [Resource.has, hf] using (List.mem_filter.mp hkv).2

/-- the propagation stage keeps every source resource of the node (same name, type AND value, same position) and only
    appends new ones -/
theorem C10_propagation_only_adds (r : Routine) :
    ∃ extra, (propagateChildResourcesStep r).resources = r.resources ++ extra := by
  refine ⟨_, Resource.foldl_set_eq_append _ r.resources fun x hx => ?_⟩
  -- `extra` is the new multiplicative resources set into the new additive ones: a member comes from one list or the other
  rcases Resource.mem_foldl_set hx with h | h
  · exact find?_none_of_mem_new _ _ (fun _ => rfl) _ x h
  · exact find?_none_of_mem_new _ _ (fun _ => rfl) _ x h

/-- **exactly the routines of the source**: whatever order `sorted_children_order` computes for a routine whose children have
    distinct names, whose listed order mentions exactly them and whose child-to-child connections mention only them, re-ordering
    the children by it yields a permutation of the children — none dropped, none duplicated -/
theorem C10_reordering_loses_no_child (ch : List Routine) (ord : List String) (conns : List (Endpoint × Endpoint)) (o : List String)
    (hn : (ch.map (·.name)).Nodup) (ho : ord.Perm (ch.map (·.name))) (hin : InnerEndpointsIn (ch.map (·.name)) conns)
    (h : sortedChildrenOrder (ch.map (·.name)) ord conns = .ok o) : (reorder (·.name) ch o).Perm ch :=
  reorder_perm _ ch o hn (sortedChildrenOrder_perm _ ord conns o hn ho hin h)

end Bartiq
