/-
  C12 — Expressions survive being written out and read back.
  print ∘ parse = id is proved for the model printer (`printWith`, BartiqModel/Printer.lean): standard minimal parentheses
  for sums/products/signs (what sympy's StrPrinter does) and bartiq's own policy around `^`, given by the table
  `Generated.parenTable` that is probed from the REAL `serialize` on every run.  The proof composes the printer lemma with the
  parser theorem of C11.  PARTIAL: sympy's lowering of its canonical Add/Mul/Pow objects to the printed layout (term order,
  sign extraction, numerator/denominator split) is external; that the printed layout denotes the same value is covered by
  the oracle of harness/props/c12.py, and the Lean parser is corresponded with the real parser on the printed texts.
-/
import BartiqProofs.PrinterRoundTrip
import Generated.Printer
namespace Bartiq

/-- **round trip**: parsing what the printer wrote gives back exactly the tree that was printed (all well-formed surface trees:
    any nesting of + - * / // % **, signs, calls, names, non-negative literals), for the table read from the real printer -/
theorem C12_roundtrip (t : SExpr) (h : wfs t = true) : parseToks (printWith Generated.parenTable t) = some t :=
  parse_print Generated.parenTable t h

/-- the real printer's decisions around `^`, as probed this run, are sufficient on their own -/
theorem C12_table_adequate : ParenTable.Adequate Generated.parenTable := by
  unfold ParenTable.Adequate
  decide

theorem cls_of_low_level (a : SExpr) (h : a.level < 5) : a.cls ∈ ["negnum", "rational", "add", "mul", "pow", "neg"] := by
  unfold SExpr.cls
  split
  -- `num`, `name`, `call` have level 5; every other clause of `cls` only yields classes of the list
  case h_1 | h_2 | h_3 => exact absurd h (Nat.lt_irrefl 5)
  all_goals (repeat' split) <;> simp

/-- with an adequate table the model printer parenthesises a power's base exactly where the real printer does (the extra
    safety guard of the model never fires) -/
theorem C12_table_alone_suffices (tbl : ParenTable) (hA : tbl.Adequate) (a : SExpr) :
    (tbl.paren "powBase" a.cls || decide (a.level < 5)) = tbl.paren "powBase" a.cls := by
  by_cases h : a.level < 5
  · have := hA.1 a.cls (cls_of_low_level a h)
    simp [this]
  · simp [h]

/-- the re-read expression has the same symbols and the same calls, because it is the same tree -/
theorem C12_same_symbols_and_calls (t t' : SExpr) (h : wfs t = true)
    (h' : parseToks (printWith Generated.parenTable t) = some t') : t' = t := by
  rw [C12_roundtrip t h] at h'
  exact (Option.some.inj h').symm

/-- names (plain, dotted, `#port`, reserved words) are printed as themselves, as one token -/
theorem C12_names_print_as_themselves (tbl : ParenTable) (s : String) : printWith tbl (.name s) = [Tok.name s] := rfl

-- non-vacuity: (a ** b) ** c is printed with the base parenthesised and reads back as itself
example : printWith Generated.parenTable (.bin "**" (.bin "**" (.name "a") (.name "b")) (.name "c")) =
    [Tok.lp, Tok.name "a", Tok.pow, Tok.name "b", Tok.rp, Tok.pow, Tok.name "c"] := by decide

end Bartiq
