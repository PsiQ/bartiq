/-
  C06 — Size mismatches are always detected; consistent sizes are never rejected.
  Relative to the comparator contract `CmpSound` (sympy's `expand`-based `compare` is external; the executable instance
  `Cmp.poly` is corresponded with it on every run): a violated constraint is raised only when the two sides differ under
  EVERY assignment; a constraint is dropped only after it was found valid under every assignment; a constraint whose
  status is unknown is kept and re-evaluated by every later `evaluate`; and `introduce_port_variables` produces a
  constraint for a port declared with an integer constant or with a symbol an earlier port has fixed, and binds a fresh symbol
  to the port variable (a compound size also gets a constraint in the model, `ipvStep`; no theorem here speaks of it).
-/
import BartiqProofs.EvaluateLemmas
import BartiqProofs.ExceptLemmas
import BartiqProofs.Refinement
import Mathlib.Data.Rat.Cast.Defs
namespace Bartiq
open Expr
variable {V : Type}

structure CmpSound (A : Alg V) (C : Comparator) : Prop where
  equal : ∀ a b, C a b = .equal → ∀ ρ, eval A ρ a = eval A ρ b
  unequal : ∀ a b, C a b = .unequal → ∀ ρ x y, eval A ρ a = some x → eval A ρ b = some y → x ≠ y

/-- non-vacuity of the contract -/
theorem cmpSound_ambiguous (A : Alg V) : CmpSound A (fun _ _ => .ambiguous) :=
  { equal := by intro a b h; cases h
    unequal := by intro a b h; cases h }

/-- evaluating one constraint: it raises only if the (substituted) sides differ under every assignment -/
theorem C06_violation_only_if_always_different (A : Alg V) (C : Comparator) (hC : CmpSound A C) (c : Constraint) (σ : Dict Expr)
    (e : Constraint × Constraint) (h : evaluateConstraint C c σ = .error e) :
    ∀ ρ x y, eval A ρ (Expr.subst σ c.lhs) = some x → eval A ρ (Expr.subst σ c.rhs) = some y → x ≠ y := by
  rw [evaluateConstraint_eq] at h
  split at h
  · cases h
  · next hc => exact hC.unequal _ _ hc
  · cases h

/-- a constraint is marked satisfied (and dropped by the next evaluation) only if it holds under every assignment -/
theorem C06_dropped_only_if_valid (A : Alg V) (C : Comparator) (hC : CmpSound A C) (c nc : Constraint) (σ : Dict Expr)
    (h : evaluateConstraint C c σ = .ok nc) (hs : nc.status = .satisfied) :
    ∀ ρ, eval A ρ (Expr.subst σ c.lhs) = eval A ρ (Expr.subst σ c.rhs) := by
  rw [evaluateConstraint_eq] at h
  split at h
  · next hc => exact hC.equal _ _ hc
  · cases h
  · cases h; cases hs

/-- an undecided constraint is kept, with both sides rewritten by the same simultaneous substitution, so that every later
    `evaluate` checks it again with more information -/
theorem C06_undecided_is_kept (C : Comparator) (c : Constraint) (σ : Dict Expr)
    (hc : C (Expr.subst σ c.lhs) (Expr.subst σ c.rhs) = .ambiguous) :
    evaluateConstraint C c σ = .ok ⟨Expr.subst σ c.lhs, Expr.subst σ c.rhs, .inconclusive⟩ := by
  rw [evaluateConstraint_eq, hc]

/-- the sides of a retained constraint mean what the declared size and the incoming size mean in the node's scope -/
theorem C06_constraint_sides_are_scope_values (A : Alg V) (ρ : Env V) (σ : Dict Expr) (e : Expr) (hb : binders e = []) :
    eval A ρ (Expr.subst σ e) = eval A (scopeOf ρ (σ.mapVal (eval A ρ))) e :=
  eval_subst_instV A ρ σ e hb

/-- constants: a port declared with an integer constant gets the constraint `#port = constant` -/
theorem C06_constant_port_constrained (r : Routine) (st st' : IPVState) (port : Port) (k : Int)
    (hnot : ∀ s, port.size ≠ .sym s) (hk : port.size.constInt? = some k) (h : ipvStep r st port = .ok st') :
    (⟨.sym ("#" ++ port.name), port.size, .inconclusive⟩ : Constraint) ∈ st'.addCons.map (fun c => (⟨c.lhs, c.rhs, c.status⟩ : Constraint)) := by
  unfold ipvStep at h
  split at h
  next s hs => exact absurd hs (hnot s)
  next =>
    simp only [hk, Except.bind_eq_ok, Except.pure_eq_ok] at h
    obtain ⟨_, rfl, rfl⟩ := h
    simp

/-- repeated symbol: a port whose size is a symbol already fixed by an earlier port gets `#port = #earlier` -/
theorem C06_repeated_symbol_constrained (r : Routine) (st st' : IPVState) (port : Port) (s : String) (w : Expr)
    (hs : port.size = .sym s) (hne : s ≠ "#" ++ port.name) (hw : st.addLocals.get? s = some w) (h : ipvStep r st port = .ok st') :
    st'.addCons = st.addCons ++ [⟨.sym ("#" ++ port.name), w, .inconclusive⟩] := by
  unfold ipvStep at h
  simp only [hs, hw, if_pos hne, Except.bind_eq_ok, Except.pure_eq_ok] at h
  obtain ⟨_, rfl, rfl⟩ := h
  rfl

/-- a fresh symbol is bound to the port variable (no constraint is needed: the symbol takes the incoming size) -/
theorem C06_fresh_symbol_bound (r : Routine) (st st' : IPVState) (port : Port) (s : String)
    (hs : port.size = .sym s) (hne : s ≠ "#" ++ port.name) (hw : st.addLocals.get? s = none) (h : ipvStep r st port = .ok st') :
    st'.addLocals = st.addLocals.set s (.sym ("#" ++ port.name)) ∧ st'.addCons = st.addCons := by
  unfold ipvStep at h
  simp only [hs, hw, if_pos hne, Except.bind_eq_ok, Except.pure_eq_ok] at h
  obtain ⟨_, rfl, rfl⟩ := h
  exact ⟨rfl, rfl⟩

/-! ### completeness on numbers: once both sides of a retained constraint are closed (all top-level inputs assigned — C04), the
    executable comparator DECIDES it, and a difference of integer sizes is always a violation -/

theorem closedValue?_eq_some {e : Expr} {v : Rat} :
    Poly.closedValue? e = some v ↔ Expr.fv e = [] ∧ eval Alg.rat (fun _ => none) e = some v := by
  unfold Poly.closedValue?
  by_cases h : Expr.fv e = [] <;> simp [h]

theorem closedValue?_sub (a b : Expr) (va vb : Rat) (ha : Poly.closedValue? a = some va) (hb : Poly.closedValue? b = some vb) :
    Poly.closedValue? (.bin .sub a b) = some (va - vb) := by
  obtain ⟨hfa, hea⟩ := closedValue?_eq_some.mp ha
  obtain ⟨hfb, heb⟩ := closedValue?_eq_some.mp hb
  refine closedValue?_eq_some.mpr ⟨by simp [Expr.fv, hfa, hfb], ?_⟩
  simp only [Expr.eval, hea, heb, Option.bind_some]
  rfl

theorem isConst?_const (q : Rat) : Poly.isConst? (Poly.const q) = some q := by
  unfold Poly.const
  by_cases h0 : q = 0 <;> simp [h0, Poly.isConst?]

theorem Cmp.poly_of_closed (a b : Expr) (va vb : Rat) (ha : Poly.closedValue? a = some va) (hb : Poly.closedValue? b = some vb) :
    Cmp.poly a b = if va = vb then .equal else if (va - vb).den = 1 then .unequal else .ambiguous := by
  unfold Cmp.poly Poly.ofExpr
  rw [closedValue?_sub a b va vb ha hb]
  simp only [isConst?_const, sub_eq_zero]

/-- the comparator on two closed sides with exact values: equal values → equal; different INTEGER values → unequal -/
theorem C06_numeric_sizes_decided (a b : Expr) (va vb : Rat) (ha : Poly.closedValue? a = some va) (hb : Poly.closedValue? b = some vb)
    (hia : va.den = 1) (hib : vb.den = 1) : Cmp.poly a b = if va = vb then .equal else .unequal := by
  have hden : (va - vb).den = 1 := by
    rw [← Rat.coe_int_num_of_den_eq_one hia, ← Rat.coe_int_num_of_den_eq_one hib, ← Int.cast_sub]
    exact Rat.den_intCast _
  rw [Cmp.poly_of_closed a b va vb ha hb, if_pos hden]

/-- **a real difference of integer sizes is always rejected** once the sides are numbers: the evaluation of such a constraint
    with the executable comparator fails exactly when the two values differ -/
theorem C06_numeric_mismatch_always_rejected (c : Constraint) (σ : Dict Expr) (va vb : Rat)
    (ha : Poly.closedValue? (Expr.subst σ c.lhs) = some va) (hb : Poly.closedValue? (Expr.subst σ c.rhs) = some vb)
    (hia : va.den = 1) (hib : vb.den = 1) :
    (va ≠ vb → ∃ e, evaluateConstraint Cmp.poly c σ = .error e) ∧
    (va = vb → ∃ nc, evaluateConstraint Cmp.poly c σ = .ok nc ∧ nc.status = .satisfied) := by
  rw [evaluateConstraint_eq, C06_numeric_sizes_decided _ _ va vb ha hb hia hib]
  constructor
  · intro hne
    rw [if_neg hne]
    exact ⟨_, rfl⟩
  · intro heq
    rw [if_pos heq]
    exact ⟨_, rfl, rfl⟩

example : Cmp.poly (.bin .mul (.num 2) (.num 3)) (.num 7) = .unequal ∧ Cmp.poly (.bin .mul (.num 2) (.num 3)) (.num 6) = .equal := by
  decide +kernel

end Bartiq
