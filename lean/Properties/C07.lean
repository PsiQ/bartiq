/-
  C07 — Repetition arithmetic equals the unrolled sum.

  The closed forms below (`Generated.constSum`, `arithSum`, `geomSum`, `constProd`) are regenerated on every run by
  running the code's own `get_sum` / `get_prod` on fresh symbols (harness/translate/sequences.py), so these theorems
  are re-checked against what the code says now.  They hold over an arbitrary field (of characteristic 0 for the arithmetic
  sequence) and for every natural count.
-/
import Generated.Sequences
import BartiqModel.Compile
import BartiqProofs.ExprLemmas
import Mathlib.Algebra.BigOperators.Group.Finset.Basic
import Mathlib.Tactic.Ring

namespace Bartiq
open Finset Generated

variable {K : Type} [Field K]

theorem C07_constant_sum (n : ℕ) (m x : K) :
    constSum n m x = ∑ _i ∈ range n, m * x := by
  simp only [constSum, sum_const, card_range, nsmul_eq_mul]; ring

theorem C07_arithmetic_sum [CharZero K] (n : ℕ) (a d x : K) :
    arithSum n a d x = ∑ i ∈ range n, (a + (i : K) * d) * x := by
  induction n with
  | zero => simp [arithSum]
  | succ k ih =>
    rw [sum_range_succ, ← ih]; simp only [arithSum]; push_cast; ring

theorem C07_geometric_sum (n : ℕ) (r x : K) (hr : r ≠ 1) :
    geomSum n r x = ∑ i ∈ range n, r ^ i * x := by
  have hc : (1 - r)⁻¹ * (1 - r) = 1 := inv_mul_cancel₀ (sub_ne_zero.mpr hr.symm)
  induction n with
  | zero => simp [geomSum]
  | succ k ih =>
    -- the closed form grows by rᵏ·x, because (1 - r)⁻¹ and 1 - r cancel
    rw [sum_range_succ, ← ih, geomSum, geomSum, ← sub_eq_zero]
    calc _ = x * r ^ k * ((1 - r)⁻¹ * (1 - r) - 1) := by ring
      _ = 0 := by rw [hc, sub_self, mul_zero]

theorem C07_constant_prod (n m : ℕ) (x : K) :
    constProd n m x = ∏ _i ∈ range n, x ^ m := by
  simp [constProd, pow_mul]

/-- the ratio-1 case is genuinely excluded: the closed form the code uses is 0/0 there (it is `0` in a field with
    `x/0 = 0`, not `n·x`) -/
theorem C07_geometric_ratio_one_degenerate (n : ℕ) (x : K) : geomSum n 1 x = 0 := by
  simp [geomSum]

/-! ### the model of `get_sum` / `get_prod` (BartiqModel/Compile.lean, corresponded with the code on every run) evaluates to the
    unrolled sums — under EVERY interpretation of the expression language in a field of characteristic 0 that gives
    `+ - * /` and natural powers their meaning -/

structure FieldLike (A : Alg K) : Prop where
  lit : ∀ q : ℚ, A.lit q = some (q : K)
  add : ∀ a b, A.bin .add a b = some (a + b)
  sub : ∀ a b, A.bin .sub a b = some (a - b)
  mul : ∀ a b, A.bin .mul a b = some (a * b)
  div : ∀ a b, b ≠ 0 → A.bin .div a b = some (a / b)
  pow : ∀ a (n : ℕ), A.bin .pow a (n : K) = some (a ^ n)

variable {A : Alg K} {ρ : Env K}

theorem C07_model_constant_sum (hA : FieldLike A) (cnt m x : Expr) (n : ℕ) (vm vx : K)
    (hc : Expr.eval A ρ cnt = some (n : K)) (hm : Expr.eval A ρ m = some vm) (hx : Expr.eval A ρ x = some vx) :
    ∃ e, Seq.getSum cnt x (.constant m) = .ok e ∧ Expr.eval A ρ e = some (∑ _i ∈ range n, vm * vx) := by
  refine ⟨_, rfl, ?_⟩
  simp only [Expr.eval, hc, hm, hx, Option.bind_some, hA.mul]
  rw [← C07_constant_sum, constSum]; congr 1; ring

theorem C07_model_arithmetic_sum [CharZero K] (hA : FieldLike A) (cnt a d x : Expr) (n : ℕ) (va vd vx : K)
    (hc : Expr.eval A ρ cnt = some (n : K)) (ha : Expr.eval A ρ a = some va) (hd : Expr.eval A ρ d = some vd)
    (hx : Expr.eval A ρ x = some vx) :
    ∃ e, Seq.getSum cnt x (.arithmetic a d) = .ok e ∧ Expr.eval A ρ e = some (∑ i ∈ range n, (va + (i : K) * vd) * vx) := by
  refine ⟨_, rfl, ?_⟩
  simp only [Expr.eval, hc, ha, hd, hx, Option.bind_some, hA.mul, hA.add, hA.sub, hA.lit]
  rw [← C07_arithmetic_sum, arithSum]; congr 1; push_cast; ring

theorem C07_model_geometric_sum (hA : FieldLike A) (cnt r x : Expr) (n : ℕ) (vr vx : K) (hr : vr ≠ 1)
    (hc : Expr.eval A ρ cnt = some (n : K)) (hr' : Expr.eval A ρ r = some vr) (hx : Expr.eval A ρ x = some vx) :
    ∃ e, Seq.getSum cnt x (.geometric r) = .ok e ∧ Expr.eval A ρ e = some (∑ i ∈ range n, vr ^ i * vx) := by
  refine ⟨_, rfl, ?_⟩
  have h1 : ((1 : ℚ) : K) - vr ≠ 0 := by rw [Rat.cast_one]; exact sub_ne_zero.mpr hr.symm
  simp only [Expr.eval, hc, hr', hx, Option.bind_some, hA.mul, hA.sub, hA.lit, hA.pow, hA.div _ _ h1]
  rw [← C07_geometric_sum n vr vx hr, geomSum, Rat.cast_one]; congr 1; ring

theorem C07_model_constant_prod (hA : FieldLike A) (cnt m x : Expr) (n mm : ℕ) (vx : K)
    (hc : Expr.eval A ρ cnt = some (n : K)) (hm : Expr.eval A ρ m = some (mm : K)) (hx : Expr.eval A ρ x = some vx) :
    ∃ e, Seq.getProd cnt x (.constant m) = .ok e ∧ Expr.eval A ρ e = some (∏ _i ∈ range n, vx ^ mm) := by
  refine ⟨_, rfl, ?_⟩
  simp only [Expr.eval, hc, hm, hx, Option.bind_some, hA.mul]
  rw [← Nat.cast_mul, hA.pow, ← C07_constant_prod, constProd]
  congr 1
  ring

/-- in addition `sum_over` is the sum over the integers lo..hi, empty when hi = lo - 1 -/
structure FieldLikeBig (A : Alg K) : Prop extends FieldLike A where
  bigsum : ∀ (n : ℕ) (f : Int → Option K) (g : ℕ → K), (∀ i : ℕ, i < n → f (i : Int) = some (g i)) →
    A.big .sum 0 ((n : K) - 1) f = some (∑ i ∈ range n, g i)

/-- custom sequence in the model: Σ_{i<n} term(i)·x, the term expression read with the iterator bound to i -/
theorem C07_model_custom_sum (hA : FieldLikeBig A) (cnt t x : Expr) (it : String) (n : ℕ) (gt : ℕ → K) (vx : K)
    (hc : Expr.eval A ρ cnt = some (n : K))
    (ht : ∀ i : ℕ, i < n → Expr.eval A (ρ.update it (A.lit (((i : Int) : ℚ)))) t = some (gt i))
    (hx : ∀ i : ℕ, i < n → Expr.eval A (ρ.update it (A.lit (((i : Int) : ℚ)))) x = some vx) :
    ∃ e, Seq.getSum cnt x (.custom t (.sym it)) = .ok e ∧ Expr.eval A ρ e = some (∑ i ∈ range n, gt i * vx) := by
  refine ⟨_, rfl, ?_⟩
  simp only [Expr.eval, hc, Option.bind_some, hA.lit, hA.sub, Rat.cast_zero, Rat.cast_one]
  simp only [hA.lit] at ht hx
  exact hA.bigsum n _ (fun i => gt i * vx) fun i hi => by simp only [ht i hi, hx i hi, Option.bind_some, hA.mul]

/-- closed-form sequence in the model: the child's resource times the user's sum formula (free of binders) read at `count` -/
theorem C07_model_closed_form_sum (hA : FieldLike A) (cnt s p x : Expr) (nn : String) (n : ℕ) (vs vx : K)
    (hb : Expr.binders s = [])
    (hc : Expr.eval A ρ cnt = some (n : K)) (hx : Expr.eval A ρ x = some vx)
    (hs : Expr.eval A (ρ.update nn (some (n : K))) s = some vs) :
    ∃ e, Seq.getSum cnt x (.closedForm (some s) p (.sym nn)) = .ok e ∧ Expr.eval A ρ e = some (vx * vs) := by
  refine ⟨_, rfl, ?_⟩
  simp only [Expr.eval, hx, Option.bind_some]
  rw [Expr.eval_subst A _ ρ s (Expr.noCapture_of_no_binders hb), Expr.under_get?_cons A ρ (nn, cnt) [], hc,
    show Expr.under A ρ (Dict.get? []) = ρ from rfl, hs]
  simp [hA.mul]

-- non-vacuity: exact rational arithmetic is such an interpretation
def ratFieldAlg : Alg ℚ :=
  { lit := some, neg := fun a => some (-a),
    bin := fun op a b => match op with
      | .add => some (a + b) | .sub => some (a - b) | .mul => some (a * b)
      | .div => if b = 0 then none else some (a / b)
      | .pow => if b.den = 1 ∧ 0 ≤ b.num then some (a ^ b.num.toNat) else none
      | _ => none,
    fn := fun _ _ => none, big := fun _ _ _ _ => none }

theorem ratFieldAlg_fieldLike : FieldLike ratFieldAlg where
  lit := fun _ => rfl
  add := fun _ _ => rfl
  sub := fun _ _ => rfl
  mul := fun _ _ => rfl
  div := fun a b hb => if_neg hb
  pow := fun a n => by simp [ratFieldAlg]

example : FieldLike ratFieldAlg := ratFieldAlg_fieldLike

theorem bigFold_sum (f : Int → Option ℚ) (g : ℕ → ℚ) : ∀ (n : ℕ), (∀ i : ℕ, i < n → f (i : Int) = some (g i)) →
    RatAlg.bigFold .sum f 0 n = some (∑ i ∈ range n, g i)
  | 0, _ => by simp [RatAlg.bigFold]
  | n + 1, h => by
    have ih := bigFold_sum f g n (fun i hi => h i (Nat.lt_succ_of_lt hi))
    have hn := h n (Nat.lt_succ_self n)
    simp only [RatAlg.bigFold, ih, Option.bind_some, Int.zero_add, hn, sum_range_succ]

/-- the model's own exact-rational `sum_over` satisfies the law (the laws of `FieldLike` speak of `lit` and `bin` only, which
    the update leaves as they are) -/
example : FieldLikeBig { ratFieldAlg with big := RatAlg.big } :=
  { ratFieldAlg_fieldLike with
    bigsum := fun n f g h => by
      have e : ((n : ℚ) - 1) = (((n : Int) - 1 : Int) : ℚ) := by simp
      have hn : ((n : Int) - 1 + 1 - 0).toNat = n := by omega
      simp only [RatAlg.big, e, Rat.den_intCast, Rat.num_intCast, Rat.den_ofNat, Rat.num_ofNat, and_self, if_true, hn]
      exact bigFold_sum f g n h }

example : arithSum (K := ℚ) 4 2 3 5 = (2 + 5 + 8 + 11) * 5 := by norm_num [arithSum]
example : geomSum (K := ℚ) 4 3 2 = (1 + 3 + 9 + 27) * 2 := by norm_num [geomSum]

end Bartiq
