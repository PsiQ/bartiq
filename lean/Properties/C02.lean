/-
  C02 — Port sizes follow the wires.
  From the refinement theorem (C01): the size of EVERY port of every compiled node, at every point, is the value the
  value-level evaluator assigns to it — for input/through ports the size read in the scope extended by what the wires
  brought in, for output ports the size read after the children have delivered theirs.  Plus the elementary facts about
  how sizes travel: what is pushed along a connection is exactly the compiled size of its source port, and an unsized
  port (whose size is its own port variable) takes exactly what was pushed.
  PARTIAL: as C01 (`plainB`: no closed-form/custom sequences, no user-written sum_over in the refinement theorem).
-/
import BartiqProofs.Refinement
namespace Bartiq
open Expr
variable {V : Type}

/-- every port size of every node refines the reading (ports are part of the compared value tree) -/
theorem C02_port_sizes_refine_reading_partial (A : Alg V) (ρ : Env V) (C : Comparator) (r : Routine) (σ : Dict Expr)
    (c : CRoutine) (path : String) (h : compile C σ path r = .ok c) (hp : plainB r = true) :
    (denoteV A ρ (σ.mapVal (eval A ρ)) r).map (·.ports) = some (c.ports.map fun p => (p.name, p.dir, eval A ρ p.size)) := by
  rw [compile_refines_denoteV A ρ C r σ path c h hp]
  simp [evalTree_eq]

/-- what travels along a connection is the compiled size of its source port, delivered as the target's port variable -/
theorem C02_wire_carries_source_size {α : Type} (cm : List (String × Endpoint)) (sizes : Dict α) (upd : PUpdateG α)
    (h : paramTreeFromSizes cm sizes = .ok upd) :
    ∀ e ∈ upd, ∃ st ∈ cm, e.1 = st.2.routine ∧ e.2.1 = "#" ++ st.2.port ∧ sizes.get? st.1 = some e.2.2 :=
  paramTreeFromSizes_entries h

/-- an unsized port (size = its own variable `#p`) carries exactly the size that was delivered for `#p` -/
theorem C02_unsized_carries_incoming (d : Dict Expr) (p : String) (v : Expr) (h : d.get? ("#" ++ p) = some v) :
    Expr.subst d (.sym ("#" ++ p)) = v := by
  simp [Expr.subst, substF, h]

/-- a port declared with an expression carries that expression read in the node's own scope -/
theorem C02_sized_carries_declared (A : Alg V) (ρ : Env V) (d : Dict Expr) (size : Expr) (hb : binders size = []) :
    eval A ρ (Expr.subst d size) = eval A (scopeOf ρ (d.mapVal (eval A ρ))) size :=
  eval_subst_instV A ρ d size hb

/-- delivering a size for a port variable makes it the value looked up afterwards -/
theorem C02_delivered_is_looked_up (d : Dict Expr) (k : String) (v : Expr) : (d.set k v).get? k = some v := by
  simp [Dict.get?_set]

end Bartiq
