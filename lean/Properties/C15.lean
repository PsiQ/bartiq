/-
  C15 — Resource aggregation is a linear, loss-free rewrite.
  Model: BartiqModel/Aggregate.lean (`_topological_sort`, `_expand_resource`, `_add_aggregated_resources_to_subroutine`),
  corresponded with the real `add_aggregated_resources` on every weighted graph on 3|4 names (incl. every cyclic one).
  Proved: a cyclic dictionary is rejected with an error and no result; resources the dictionary does not mention are not
  touched by a step; a decomposed resource is removed (and never re-created) or kept with type `other`; each step adds, to every
  target, exactly multiplier × ORIGINAL value of the decomposed resource — linearity, for every commutative-semiring
  interpretation; the expanded dictionary satisfies the PATH-SUM recurrence W(r,b) = w(r,b) + Σ_t w(r,t)·W(t,b) with only base
  resources as targets (C15_expansion_is_path_sum, unconditional: Kahn's algorithm as modelled is proved to return a valid order).
  A dictionary is rejected EXACTLY when it is cyclic (C15_cyclic_dictionary_rejected, C15_acyclic_dictionary_accepted: the model of
  graphlib's sorter fails exactly on the graphs with a cycle).
-/
import BartiqProofs.AggLemmas
import BartiqProofs.ResourceLemmas
namespace Bartiq

/-- a cyclic dictionary is rejected with an error rather than looping or returning a result -/
theorem C15_cycle_rejected (d : AggDict) (remove : Bool) (c : CRoutine) (h : aggOrder d = none) :
    ∃ m, addAggregatedResources d remove c = .error (.value m) :=
  ⟨_, by rw [addAggregatedResources_eq, h]⟩

/-- **every cyclic dictionary is rejected**: if some decomposed resource is, through any chain of nested entries, decomposed
    into itself, the call ends with an error and no result (completeness of the cycle detection: from the correctness of the model
    of graphlib's static_order — along every registration the position in a returned order strictly increases) -/
theorem C15_cyclic_dictionary_rejected (d : AggDict) (remove : Bool) (c : CRoutine) (r : String) (h : DecomposesInto d r r) :
    ∃ m, addAggregatedResources d remove c = .error (.value m) :=
  C15_cycle_rejected d remove c (aggOrder_none_of_cycle d r h)

theorem C15_acyclic_accepted (d : AggDict) (remove : Bool) (c : CRoutine) (order : List String) (h : aggOrder d = some order) :
    ∃ c', addAggregatedResources d remove c = .ok c' :=
  ⟨_, by rw [addAggregatedResources_eq, h]⟩

/-- **… and ONLY a cyclic dictionary is rejected**: for a dictionary with distinct keys in which no decomposed resource is
    decomposed into itself, a result is returned (the sorter never gets stuck on an acyclic graph: `Graph.staticOrder_none_iff`) -/
theorem C15_acyclic_dictionary_accepted (d : AggDict) (hk : d.keys.Nodup) (remove : Bool) (c : CRoutine)
    (hac : ¬ ∃ r, DecomposesInto d r r) : ∃ c', addAggregatedResources d remove c = .ok c' := by
  cases ho : aggOrder d with
  | none => exact absurd ((aggOrder_none_iff d hk).mp ho) hac
  | some order => exact C15_acyclic_accepted d remove c order ho

/-- a resource the (expanded) dictionary does not decompose causes no change at all -/
theorem C15_unmentioned_step (exp : AggDict) (remove : Bool) (agg : List Resource) (r : Resource) (h : exp.get? r.name = none) :
    aggregateStep exp remove agg r = agg := by
  simp [aggregateStep, h]

/-- what one entry `(k, v)` of the mapping of `r` writes under the name `k` -/
def applyEntry (agg : List Resource) (r : Resource) (k : String) (v : Expr) : Resource :=
  match Resource.find? agg k with
  | some cur => { cur with value := .bin .add cur.value (.bin .mul v r.value) }
  | none => ⟨k, r.ty, .bin .mul v r.value⟩

theorem applyEntry_name (agg : List Resource) (r : Resource) (k : String) (v : Expr) : (applyEntry agg r k v).name = k := by
  unfold applyEntry
  cases hf : Resource.find? agg k with
  | some cur => exact (Resource.name_of_find? hf : cur.name = k)
  | none => rfl

/-- `applyMapping` is a fold of dict updates `Resource.set`: appending a resource of a new name is such an update too -/
theorem applyMapping_cons (agg : List Resource) (r : Resource) (k : String) (v : Expr) (rest : Dict Expr) :
    applyMapping agg r ((k, v) :: rest) = applyMapping (Resource.set agg (applyEntry agg r k v)) r rest := by
  simp only [applyMapping, List.foldl_cons, applyEntry]
  cases hf : Resource.find? agg k with
  | some cur => rfl
  | none => exact congrArg (applyMapping · r rest) (Resource.set_of_find?_none (z := ⟨k, _, _⟩) hf).symm

theorem applyMapping_names (r : Resource) : ∀ (m : Dict Expr) (agg : List Resource) (x : Resource), x ∈ applyMapping agg r m →
    (∃ y ∈ agg, y.name = x.name) ∨ x.name ∈ m.keys
  | [], _, x, hx => Or.inl ⟨x, hx, rfl⟩
  | (k, v) :: rest, agg, x, hx => by
    rw [applyMapping_cons] at hx
    rcases applyMapping_names r rest _ x hx with ⟨y, hy, hyn⟩ | hk
    · rcases Resource.mem_set hy with hy | rfl
      · exact Or.inl ⟨y, hy, hyn⟩
      · exact Or.inr (List.mem_cons.mpr (Or.inl (hyn.symm.trans (applyEntry_name agg r k v))))
    · exact Or.inr (List.mem_cons_of_mem _ hk)

/-- in an expanded dictionary the targets are base resources (never decomposed themselves) -/
def TargetsAreBase (exp : AggDict) : Prop := ∀ k m, exp.get? k = some m → ∀ t ∈ m.keys, exp.get? t = none

theorem step_preserves_absent (exp : AggDict) (hb : TargetsAreBase exp) (remove : Bool) (n : String) (hn : exp.get? n ≠ none)
    (agg : List Resource) (r : Resource) (h : ∀ x ∈ agg, x.name ≠ n) : ∀ x ∈ aggregateStep exp remove agg r, x.name ≠ n := by
  unfold aggregateStep
  cases hm : exp.get? r.name with
  | none => exact h
  | some m =>
    have hnames : ∀ x ∈ applyMapping agg r m, x.name ≠ n := fun x hx => by
      rcases applyMapping_names r m agg x hx with ⟨y, hy, hyn⟩ | hk
      · exact hyn ▸ h y hy
      · exact fun e => hn (hb r.name m hm n (e ▸ hk))
    simp only
    split
    · exact fun x hx => hnames x (List.mem_filter.mp hx).1
    · intro x hx
      obtain ⟨y, hy, rfl⟩ := List.mem_map.mp hx
      split <;> exact hnames y hy

/-- **removed**: with `remove_decomposed`, the step for a decomposed resource leaves no resource of that name -/
theorem C15_decomposed_removed_by_its_step (exp : AggDict) (agg : List Resource) (r : Resource) (m : Dict Expr)
    (hm : exp.get? r.name = some m) : ∀ x ∈ aggregateStep exp true agg r, x.name ≠ r.name := by
  intro x hx
  simp only [aggregateStep, hm, if_true] at hx
  have := (List.mem_filter.mp hx).2
  simpa using this

/-- … and it stays removed through all later steps of the node -/
theorem C15_stays_removed (exp : AggDict) (hb : TargetsAreBase exp) (n : String) (hn : exp.get? n ≠ none) :
    ∀ (rest : List Resource) (agg : List Resource), (∀ x ∈ agg, x.name ≠ n) →
      ∀ x ∈ rest.foldl (aggregateStep exp true) agg, x.name ≠ n
  | [], agg, h => h
  | r :: rest, agg, h => by
    simp only [List.foldl_cons]
    exact C15_stays_removed exp hb n hn rest _ (step_preserves_absent exp hb true n hn agg r h)

/-- **kept as `other`**: without `remove_decomposed`, the step gives every resource of the decomposed name the type `other` -/
theorem C15_decomposed_kept_as_other (exp : AggDict) (agg : List Resource) (r : Resource) (m : Dict Expr)
    (hm : exp.get? r.name = some m) : ∀ x ∈ aggregateStep exp false agg r, x.name = r.name → x.ty = .other := by
  intro x hx hxn
  simp only [aggregateStep, hm, Bool.false_eq_true, if_false, List.mem_map] at hx
  obtain ⟨y, _, rfl⟩ := hx
  by_cases hy : y.name = r.name
  · simp [hy]
  · simp only [hy, if_false] at hxn

variable {R : Type} [CommSemiring R]

/-- value of the resource named `b` in a resource list (0 if absent) -/
def valOf (ev : Expr → R) (rs : List Resource) (b : String) : R :=
  match Resource.find? rs b with
  | some x => ev x.value
  | none => 0

theorem valOf_set (ev : Expr → R) (l : List Resource) (z : Resource) (b : String) :
    valOf ev (Resource.set l z) b = if z.name = b then ev z.value else valOf ev l b := by
  unfold valOf
  rw [Resource.find?_set]
  by_cases h : z.name = b
  · rw [if_pos h, if_pos h]
  · rw [if_neg h, if_neg h]

theorem ev_applyEntry (ev : Expr → R) (hev : RingEval ev) (agg : List Resource) (r : Resource) (k : String) (v : Expr) :
    ev (applyEntry agg r k v).value = valOf ev agg k + ev v * ev r.value := by
  unfold applyEntry valOf
  cases Resource.find? agg k with
  | some cur => simp only [hev.add, hev.mul]
  | none => simp only [hev.mul, zero_add]

/-- **linearity**: applying the mapping of a decomposed resource `r` adds to each base resource `b` exactly
    Σ over the entries (b, multiplier) of  multiplier × (original value of r)  — nothing else changes -/
theorem C15_linear_contribution (ev : Expr → R) (hev : RingEval ev) (r : Resource) :
    ∀ (m : Dict Expr) (agg : List Resource) (b : String),
      valOf ev (applyMapping agg r m) b = valOf ev agg b + ((m.filter (fun sm => sm.1 = b)).map (fun sm => ev sm.2 * ev r.value)).sum
  | [], agg, b => by simp [applyMapping]
  | (k, v) :: rest, agg, b => by
    rw [applyMapping_cons, C15_linear_contribution ev hev r rest, valOf_set, applyEntry_name, ev_applyEntry ev hev,
      List.filter_cons]
    by_cases hb : k = b
    · subst hb
      simp only [if_true, decide_true, List.map_cons, List.sum_cons, add_assoc]
    · simp only [hb, if_false, decide_false, Bool.false_eq_true]

/-- the recurrence below, GIVEN that the order `_topological_sort` returned passes the executable check `topoOK` (each decomposed
    resource once, after the ones it is decomposed into) — the form in which the driver re-checks the hypothesis on every
    dictionary of every run.  That it always passes is `aggOrder_topoOK`; the expansion along an arbitrary order that passes is
    `expFold_spec`. -/
theorem C15_expansion_along_valid_order (ev : Expr → R) (hev : RingEval ev) (d : AggDict)
    (hD : ∀ r, ((d.get? r).getD []).keys.Nodup) (order : List String)
    (ho : aggOrder d = some order) (ht : topoOK d [] order = true) :
    ∃ E, expandAggregation d = .ok E ∧ ∀ r ∈ order, Expanded ev d E r :=
  ⟨_, expandAggregation_eq d order ho, (expFold_spec hev hD order [] [] ht ⟨nofun, nofun, nofun⟩).expanded⟩

/-- **expansion = sum over all decomposition paths**, stated as the recurrence that defines that sum: whenever the dictionary
    is accepted (not cyclic), in the expanded dictionary every decomposed resource `r` maps only to base resources, each once,
    and gives base resource `b` the weight
        W(r,b) = w(r,b) + Σ_{t decomposed target of r} w(r,t) · W(t,b)
    — for every interpretation of the multipliers in a commutative semiring.  The order comes from the model of
    `_topological_sort` (Kahn's algorithm, proved correct in BartiqProofs/GraphLemmas.lean: `staticOrder_spec`). -/
theorem C15_expansion_is_path_sum (ev : Expr → R) (hev : RingEval ev) (d : AggDict)
    (hD : ∀ r, ((d.get? r).getD []).keys.Nodup) (order : List String) (ho : aggOrder d = some order) :
    ∃ E, expandAggregation d = .ok E ∧ ∀ r ∈ order, Expanded ev d E r :=
  C15_expansion_along_valid_order ev hev d hD order ho (aggOrder_topoOK d order ho)

/-- the entry order inside each decomposition is irrelevant for the weights: they are determined by the recurrence alone, which
    only looks values up by name (`dval`) -/
theorem C15_weights_determined (ev : Expr → R) (d E E' : AggDict) (r b : String)
    (h : ∀ t, ((E.get? t).getD []) = ((E'.get? t).getD [])) : viaDecomposed ev d E r b = viaDecomposed ev d E' r b :=
  viaDecomposed_congr ev d r b fun t _ _ => h t

-- non-vacuity: A → {B: 2, X: 3}, B → {X: 5}; the order [B, A] is accepted by the check, [A, B] is not
example : topoOK [("A", [("B", .num 2), ("X", .num 3)]), ("B", [("X", .num 5)])] [] ["B", "A"] = true ∧
    topoOK [("A", [("B", .num 2), ("X", .num 3)]), ("B", [("X", .num 5)])] [] ["A", "B"] = false := by decide

end Bartiq
