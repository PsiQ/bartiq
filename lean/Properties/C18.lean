/-
  C18 — Rendering is total and complete on every routine bartiq accepts.
  Model: `latexEntries` / `formatterOf` (BartiqModel/Latex.lean).  Proved: the entry list contains an entry for every input
  parameter, every port (input, output AND through) and every resource of the top-level routine, and — unless disabled — one
  entry for every resource of every descendant (with multiplicity: two same-named subroutines get two entries); the name
  formatters never hand the empty string to `sympy.symbols` for a non-empty name.  PARTIAL: `sympy.latex` and the expression
  parser never raising on bartiq's expressions is a contract exercised by harness/props/c18.py only.
-/
import BartiqModel.Latex
namespace Bartiq

/- Completeness: `latexEntries` is an append of one list per section; each entry claimed is shown to lie in its own list, and
   `List.mem_append` finds that list in the chain. -/

theorem C18_complete_input_params (r : Routine) (s : Bool) (p : String) (h : p ∈ r.inputParams) :
    ⟨.inputParams, p⟩ ∈ latexEntries r s := by
  have := List.mem_map_of_mem (f := (⟨.inputParams, ·⟩ : String → Entry)) h
  simp only [latexEntries, List.mem_append, this, true_or]

theorem port_entry_mem (ports : List Port) (p : Port) (h : p ∈ ports) (d : Dir) (hd : p.dir = d) (sec : Section) :
    ⟨sec, p.name⟩ ∈ (ports.filter (·.dir = d)).map (fun q => (⟨sec, q.name⟩ : Entry)) :=
  List.mem_map_of_mem (List.mem_filter.mpr ⟨h, decide_eq_true hd⟩)

/-- every port has an entry in the section of its direction — through ports included -/
theorem C18_complete_ports (r : Routine) (s : Bool) (p : Port) (h : p ∈ r.ports) :
    ⟨portSection p.dir, p.name⟩ ∈ latexEntries r s := by
  cases hd : p.dir <;>
    simp only [latexEntries, portSection, List.mem_append, port_entry_mem r.ports p h _ hd, true_or, or_true]

theorem C18_complete_root_resources (r : Routine) (s : Bool) (x : Resource) (h : x ∈ r.resources) :
    ⟨.resources, x.name⟩ ∈ latexEntries r s := by
  have := List.mem_map_of_mem (f := fun x : Resource => (⟨.resources, x.name⟩ : Entry)) h
  simp only [latexEntries, List.mem_append, this, true_or, or_true]

/-- unless disabled, every resource of every descendant has an entry -/
theorem C18_complete_subroutine_resources (r d : Routine) (x : Resource) (hd : d ∈ descendants r) (hx : x ∈ d.resources) :
    ⟨.resources, d.name ++ "." ++ x.name⟩ ∈ latexEntries r true := by
  have := List.mem_flatMap_of_mem (f := fun d : Routine => d.resources.map fun x => (⟨.resources, d.name ++ "." ++ x.name⟩ : Entry))
    hd (List.mem_map_of_mem hx)
  simp only [latexEntries, List.mem_append, if_true, this, or_true]

/-- with multiplicity: the number of resource entries is the number of root resources plus the total number of resources of
    all descendants (nothing is merged or dropped when two subroutines share a name) -/
theorem C18_resource_entry_count (r : Routine) :
    ((latexEntries r true).filter (fun (e : Entry) => e.sec = Section.resources)).length =
      r.resources.length + ((descendants r).map (·.resources.length)).sum := by
  -- counted list by list: a list mapped into another section counts 0, one mapped into `resources` counts its length
  rw [← List.countP_eq_length_filter]
  cases hr : r.rep <;> simp [latexEntries, hr, List.countP_map, List.countP_flatMap, Function.comp_def]

theorem self_mem_walk (r : Routine) : r ∈ walk r := by
  cases r
  simp [walk]

theorem mem_walkList : ∀ (cs : List Routine) (c : Routine), c ∈ cs → c ∈ walkList cs
  | x :: xs, c, h => by
    rw [walkList]
    rcases List.mem_cons.mp h with rfl | h
    · exact List.mem_append_left _ (self_mem_walk c)
    · exact List.mem_append_right _ (mem_walkList xs c h)

/-- the children are among the descendants whose resources are listed -/
theorem C18_children_are_descendants (r c : Routine) (h : c ∈ r.children) : c ∈ descendants r := by
  cases r
  exact mem_walkList _ c h

theorem splitFirst_join (c : Char) (p : List Char) (h : c ∈ p) :
    p = (splitFirst c p).1 ++ c :: (splitFirst c p).2 := by
  induction p with
  | nil => cases h
  | cons x xs ih =>
    rw [splitFirst]
    by_cases hx : x = c
    · simp [hx]
    · simpa [hx] using ih ((List.mem_cons.mp h).resolve_left (Ne.symm hx))

theorem formatterOf_mathSubscript (p : List Char) (hf : formatterOf p = .mathSubscript) :
    (splitFirst '_' p).1 ≠ [] ∧ (splitFirst '_' p).2 ≠ [] := by
  unfold formatterOf at hf
  split at hf
  · split at hf
    · dsimp only at hf
      split at hf
      · cases hf
      next hne => simpa using hne
    · cases hf
  · cases hf

/-- **totality of the name formatting**: for a non-empty parameter name no formatter ever calls `sympy.symbols("")`
    (the failure `ValueError: no symbols given`) -/
theorem C18_format_total (p : List Char) (hp : p ≠ []) : ∀ a ∈ symbolsArgs p, a ≠ [] := by
  unfold symbolsArgs
  cases hf : formatterOf p with
  | text => simp
  | math => simpa using hp
  | mathSubscript => simpa using (formatterOf_mathSubscript p hf).symm

-- after fix F9 the names that reached `sympy.symbols("")` are rendered as text
example : formatterOf "_x".toList = .text ∧ formatterOf "x_".toList = .text ∧ formatterOf "_".toList = .text ∧
    formatterOf "x_y".toList = .mathSubscript ∧ formatterOf "a_b_c".toList = .text ∧ formatterOf "N".toList = .math := by decide

end Bartiq
