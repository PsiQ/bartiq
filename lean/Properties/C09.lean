/-
  C09 — Results do not depend on listing order.
  Proved here: every place where the model turns a user-ordered (or set-ordered) collection into a result goes either
  through a dictionary LOOKUP (insensitive to the order of a duplicate-free list) or through the canonical sort.
  The order in which children are processed is fixed by the wiring (`sortedChildrenOrder`), not by the listing.
  The order in which the children of a routine are PROCESSED does not matter either: `C09_children_order_irrelevant` — for any
  two orders in which no child is fed by a later one, `_compile` gives the parent the same ports, resources, input parameters,
  constraints and repetition and compiles every child to the same result (BartiqProofs/CompileCongr.lean: compilation sees its
  parameter dictionaries only as mappings; BartiqProofs/ChildOrder.lean: two children without a wire between them commute, and
  any two valid orders are connected by such exchanges); and `C09_children_processed_consistently_with_wiring` — whatever order the children are LISTED in,
  the order `sorted_children_order` returns is such an order.  `C09_relisting_children_everywhere` lifts this to re-listings at
  EVERY level of the hierarchy at once (BartiqProofs/ChildOrderDeep.lean).  PARTIAL: the other list-valued fields (ports,
  resources, connections, links, locals) are covered by the lookup / canonical-sort lemmas below and by the permutation oracle
  of harness/props/c09.py, not by one whole-tree theorem.
-/
import BartiqProofs.SortTreeLemmas
import BartiqProofs.ChildOrderDeep
namespace Bartiq
open Expr

/-- the input parameters computed for a compiled node do not depend on the order in which input parameters or ports are listed -/
theorem C09_input_params_order_irrelevant (ips ips' : List String) (inputs : Dict Expr) (ports ports' : List Port)
    (h1 : ips.Perm ips') (h2 : ports.Perm ports') :
    newInputParams ips inputs ports = newInputParams ips' inputs ports' := by
  unfold newInputParams
  apply dedupSorted_eq_of_perm
  apply List.Perm.append
  · split
    · exact h1
    · exact List.Perm.refl _
  · exact h2.flatMap_right _

/-- local variables, link tables, parameter maps and assignments are consulted by lookup only: listing a duplicate-free
    dictionary in another order changes no substitution -/
theorem C09_dictionary_order_irrelevant (d d' : Dict Expr) (hp : d.Perm d') (hn : (d.map (·.1)).Nodup) (e : Expr) :
    Expr.subst d e = Expr.subst d' e :=
  subst_congr_lookup (Dict.get?_perm hp hn) e

/-- ports are processed by `introduce_port_variables` in the canonical (non-single?, name) order whatever order they are listed in:
    the sorted list of port NAMES is the same for every listing -/
theorem C09_port_names_canonical (ps ps' : List Port) (h : ps.Perm ps') :
    sortBy (fun a b : String => decide (a < b)) (ps.map (·.name)) = sortBy (fun a b => decide (a < b)) (ps'.map (·.name)) :=
  sortBy_eq_of_perm (h.map _)

/-- the order in which the predecessors of a child were collected (a Python `set`) is irrelevant to the graph handed to the
    topological sorter: they are sorted first -/
theorem C09_predecessor_order_irrelevant (preds preds' : List String) (h : preds.Perm preds') :
    sortBy (fun a b : String => decide (a < b)) preds = sortBy (fun a b => decide (a < b)) preds' :=
  sortBy_eq_of_perm h

/-- evaluation does not depend on the order of the assignment mapping (restated from C05 for the listing-order reading) -/
theorem C09_assignment_order_irrelevant (C : Comparator) (c : CRoutine) (σ σ' : Dict Expr)
    (hp : σ.Perm σ') (hn : (σ.map (·.1)).Nodup) : evaluate C c σ = evaluate C c σ' :=
  evaluateInternal_congr C (SameAssignment.of_perm hp hn) id c c.name

-- non-vacuity
example : ["b", "a", "c"].Perm ["c", "b", "a"] := by decide

theorem localOrder_eq (locals : Dict Expr) : localOrder locals = Graph.staticOrder (depGraph Expr.fv locals) := rfl

/-- local variables are processed in DEPENDENCY order, whatever order they are listed in: in the order the model of
    `TopologicalSorter(...).static_order()` returns, every variable comes after all the variables its definition mentions, every
    variable appears exactly once, and nothing else appears (from the correctness of Kahn's algorithm, `Graph.staticOrder_spec`) -/
theorem C09_locals_in_dependency_order (locals : Dict Expr) (order : List String) (h : localOrder locals = some order) :
    order.Nodup ∧ (∀ v ∈ order, locals.contains v = true) ∧
    ∀ (pre post : List String) (v : String) (e : Expr), order = pre ++ v :: post → locals.get? v = some e →
      ∀ u ∈ fv e, locals.contains u = true → u ∈ pre := by
  have ⟨h1, h2, h3⟩ := staticOrder_depGraph (localOrder_eq locals ▸ h)
  exact ⟨h1, h2, fun pre post v e ho hg => h3 pre v post ho e (Dict.get?_some_mem locals v e hg)⟩

/-- `_compile` reads its parameter dictionary only as a mapping: the same bindings inserted in another order give the very
    same compiled routine (whole subtree) -/
theorem C09_parameters_as_mapping (C : Comparator) (r : Routine) (σ σ' : Dict Expr) (path : String) (hp : σ.Perm σ')
    (hn : (σ.map (·.1)).Nodup) : compile C σ path r = compile C σ' path r :=
  compile_congr C r σ σ' path ⟨hp, hn⟩

/-- two children without a wire between them can be compiled in either order: the same compiled children, the same compiled
    siblings after them, parameters equal up to the order of dictionary entries -/
theorem C09_independent_children_commute (C : Comparator) (conns : List (Endpoint × Endpoint)) (path : String) (pm : PTree)
    (hw : PWF pm) (a b : Routine) (rest : List Routine) (hab : a.name ≠ b.name) (hind : Independent conns a.name b.name)
    (htd : TargetsDistinct conns) (p : PTree) (ca cb : CRoutine) (ccs : List CRoutine)
    (h : compileChildren C conns path pm (a :: b :: rest) = .ok (p, ca :: cb :: ccs)) :
    ∃ p', compileChildren C conns path pm (b :: a :: rest) = .ok (p', cb :: ca :: ccs) ∧ PEq p p' :=
  compileChildren_swap C conns path pm hw a b rest hab hind htd p ca cb ccs h

/-- **every reordering of the children of a routine that respects the wiring yields equal resources, port sizes, input
    parameters, constraints and repetition at that routine, and the same compiled children** (listed in the respective order).
    Hypotheses: children have distinct names, every port is the target of at most one connection (what verification enforces),
    and the references `child.resource` are unambiguous.  That the incoming parameter dictionary has unique keys (`hσ`) is not
    needed: the scope `_compile` builds from it has unique keys anyway (`compile_children_order` is stated without it). -/
theorem C09_children_order_irrelevant (C : Comparator) (name : String) (ty : Option String) (ips : List String) (lvs : Dict Expr)
    (lks : Dict (List (String × String))) (ps : List Port) (rs : List Resource) (cs : List (Endpoint × Endpoint))
    (rep : Option Repetition) (cons : List Constraint) (ord : List String) (ch ch' : List Routine) (σ : Dict Expr) (path : String)
    (hσ : Dict.NodupKeys σ) (hperm : ch.Perm ch') (hnd : (ch.map (·.name)).Nodup) (htd : TargetsDistinct cs)
    (hv : ValidOrder cs ch) (hv' : ValidOrder cs ch') (c : CRoutine)
    (h : compile C σ path ⟨name, ty, ips, lvs, lks, ps, rs, cs, rep, cons, ch, ord⟩ = .ok c)
    (hkeys : Dict.NodupKeys (cvList c.children)) :
    ∃ ccs', compile C σ path ⟨name, ty, ips, lvs, lks, ps, rs, cs, rep, cons, ch', ord⟩ = .ok { c with children := ccs' } ∧
      c.children.Perm ccs' :=
  compile_children_order C ⟨name, ty, ips, lvs, lks, ps, rs, cs, rep, cons, ch, ord⟩ ch' σ path hperm hnd htd hv hv' c h hkeys

/-- **in particular children are processed consistently with the wiring whatever order they are listed in**: the order
    `sorted_children_order` returns — the listed one if it already follows the data flow, graphlib's otherwise — never puts a
    child before one that feeds it, for every listing and every `children_order` -/
theorem C09_children_processed_consistently_with_wiring (ch : List Routine) (ord o : List String) (conns : List (Endpoint × Endpoint))
    (hn : (ch.map (·.name)).Nodup) (hord : ord.Perm (ch.map (·.name))) (hin : InnerEndpointsIn (ch.map (·.name)) conns)
    (h : sortedChildrenOrder (ch.map (·.name)) ord conns = .ok o) : ValidOrder conns (reorder (·.name) ch o) := by
  have hperm := sortedChildrenOrder_perm _ ord conns o hn hord hin h
  have hresp := sortedChildrenOrder_cases (ch.map (·.name)) ord conns
  rw [h] at hresp
  rw [validOrder_iff_names, reorder_names (·.name) ch o (fun n hn' => hperm.mem_iff.mp hn')]
  -- the returned order respects the graph of child-to-child wires, and `Feeds` is an edge of that graph
  refine (Graph.respects_pairwise _ o [] hresp.1 (hperm.nodup_iff.mpr hn)).imp_of_mem fun {a b} ha _ hnot hfeeds => ?_
  exact hnot (mem_edges_childGraph.mpr ⟨hperm.mem_iff.mp ha, mem_innerConns.mpr hfeeds⟩)

-- non-vacuity: two leaves fed from the parent's inputs, no wire between them: both orders are valid, targets are distinct
def leafA : Routine := ⟨"a", none, [], [], [], [⟨"in_0", .input, .sym "N"⟩], [⟨"T", .additive, .sym "N"⟩], [], none, [], [], []⟩
def leafB : Routine := ⟨"b", none, [], [], [], [⟨"in_0", .input, .sym "M"⟩], [⟨"T", .additive, .sym "M"⟩], [], none, [], [], []⟩
def twoWires : List (Endpoint × Endpoint) := [(⟨none, "in_0"⟩, ⟨some "a", "in_0"⟩), (⟨none, "in_1"⟩, ⟨some "b", "in_0"⟩)]
example : ValidOrder twoWires [leafA, leafB] ∧ ValidOrder twoWires [leafB, leafA] := by
  simp only [validOrder_iff_names]; decide
example : TargetsDistinct twoWires := by decide
example : Independent twoWires "a" "b" := by decide

/-- **re-listing the children at every level of the hierarchy** (each time in an order that respects the wiring, with any
    recorded `children_order`) changes nothing but the order in which compiled children are listed: every routine of the
    compiled hierarchy has the same ports, resources, input parameters, constraints and repetition (`CSim`); `hσ` is not needed
    (`compile_sim` is stated without it) -/
theorem C09_relisting_children_everywhere (C : Comparator) (r r' : Routine) (σ : Dict Expr) (path : String) (c : CRoutine)
    (hs : RSim r r') (hσ : Dict.NodupKeys σ) (h : compile C σ path r = .ok c) (href : c.RefsOK) :
    ∃ c', compile C σ path r' = .ok c' ∧ CSim c c' :=
  compile_sim C r r' σ path c hs h href

-- non-vacuity: the two listings of a parent over the two leaves below are related by `RSim`
example : RSim ⟨"root", none, ["N", "M"], [], [], [⟨"in_0", .input, .sym "N"⟩, ⟨"in_1", .input, .sym "M"⟩], [], twoWires, none, [], [leafA, leafB], ["a", "b"]⟩
    ⟨"root", none, ["N", "M"], [], [], [⟨"in_0", .input, .sym "N"⟩, ⟨"in_1", .input, .sym "M"⟩], [], twoWires, none, [], [leafB, leafA], ["b", "a"]⟩ := by
  simp only [RSim, true_and, validOrder_iff_names]
  refine ⟨by decide, by decide, by decide, by decide, [leafA, leafB], ?_, List.Perm.swap _ _ _⟩
  refine ⟨leafA, [leafB], rfl, ?_, leafB, [], rfl, ?_, rfl⟩ <;>
    simp [RSim, leafA, leafB, TargetsDistinct, ValidOrder, RSimList]


end Bartiq
